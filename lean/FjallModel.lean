import FjallModel.Bytes
import FjallModel.Journal.Entry
import FjallModel.Journal.Reader
import FjallModel.Journal.Writer
import FjallModel.Journal.Layout
import FjallModel.Xxh3
import FjallModel.Lz4
import FjallModel.Lemmas.List
import FjallModel.Lemmas.Entry
import FjallModel.Lemmas.Reader
import FjallModel.Lemmas.Torn
import FjallModel.Lemmas.ReaderSound
import FjallModel.Props.C03
import FjallModel.Props.C15
import FjallModel.Config
import FjallModel.Version
import FjallModel.Tracker
import FjallModel.Lemmas.Config
import FjallModel.Lemmas.Tracker
import FjallModel.Lemmas.Version
import FjallModel.Props.C05
import FjallModel.Props.C16
import FjallModel.Props.C17
import FjallModel.Spec
import FjallModel.Tx.Base
import FjallModel.Tx.Ssi
import FjallModel.Lemmas.Spec
import FjallModel.Lemmas.TxBase
import FjallModel.Lemmas.Ssi
import FjallModel.Lemmas.SsiHist
import FjallModel.Props.C07
import FjallModel.Tx.Sw
import FjallModel.Lemmas.Sw
import FjallModel.Tx.CommitMutex
import FjallModel.Lemmas.CommitMutex
import FjallModel.Props.C08
import FjallModel.Mvcc.Tree
import FjallModel.Mvcc.Kv
import FjallModel.Lemmas.Mvcc
import FjallModel.Lemmas.Kv
import FjallModel.Lemmas.KvRefine
import FjallModel.Props.C01
import FjallModel.Db.Log
import FjallModel.Lemmas.DbLog
import FjallModel.Lemmas.DbReach
import FjallModel.Props.C02
import FjallModel.Props.C04
import FjallModel.Props.C10
import FjallModel.Props.C11
import FjallModel.Props.C12
import FjallModel.Lemmas.Writer
import FjallModel.Lemmas.WriterDir
import FjallModel.Props.C09
import FjallModel.Props.C13
import FjallModel.Mvcc.Filter
import FjallModel.Lemmas.Filter
import FjallModel.Props.C18
import FjallModel.Conc.Model
import FjallModel.Lemmas.Conc
import FjallModel.Lemmas.ConcLin
import FjallModel.Props.C06
import FjallModel.Conc.Stall
import FjallModel.Conc.L0Halt
import FjallModel.Lemmas.Stall
import FjallModel.Lemmas.StallRank
import FjallModel.Props.C14
import FjallModel.Lemmas.DbBasics
import FjallModel.Lemmas.DbSealed
