/-
  The invariant of the stall model (`Conc/Stall.lean`): who holds the journal lock, which phases do not
  occur under `Cfg.Live`, and the accounting `sealed ≤ tasks + flushing workers`, `tasks ≤ fl` that lets a
  halted writer find a pending flush.  `enabled` says of a thread whether its next step changes the
  state; it looks the thread up as `stepT` does, so `stepT_cases` enters both at once.

  The leaves of `stepWriter` / `stepWorker` are entered with `fun_cases`, which numbers them in the
  order of the definition and puts each leaf's guards into the context:
  writer  1–3 idle (lock free / lock taken / nothing to do), 4–6 locked (`unlockBeforeStall` / not /
          nothing to do), 7–8 stalling (halted / passes), 9–10 stallingLocked (halted / passes);
  worker  1–2 idle + rotation request (one queued / none), 3–5 idle + `Flush` (with a task / no task
          left / none queued), 6–7 idle + `Compact` (queued / none), 8–9 rotWait (lock free / taken),
          10–13 rotLocked (current memtable: blocking send / room / no room; stale request),
          14–15 sendFlush (room / none), 16–17 flushWait (lock free / taken), 18 flushLocked,
          19 flushing, 20 compacting.
-/
import FjallModel.Conc.Stall
import FjallModel.Lemmas.List
namespace Fjall.Stall

def WkPhase.flushy : WkPhase → Bool
  | .flushWait | .flushLocked | .flushing => true
  | _ => false

def WrPhase.holds : WrPhase → Bool
  | .locked | .stallingLocked => true
  | _ => false

def WkPhase.holds : WkPhase → Bool
  | .rotLocked _ | .flushLocked => true
  | _ => false

/-- the code as it is (after fix F24): workers never wait for room, writers unlock before the stall
    check, and the stall limit is at least 1 -/
def Cfg.Live (cfg : Cfg) : Prop :=
  cfg.workerBlockingSend = false ∧ cfg.unlockBeforeStall = true ∧ 1 ≤ cfg.limit

structure WOk (jl : Option Holder) (i : Nat) (w : Writer) : Prop where
  lock : w.phase.holds = true → jl = some (.w i)
  noSL : w.phase ≠ .stallingLocked
  busy : w.phase ≠ .idle → w.todo ≠ []

structure KOk (jl : Option Holder) (j : Nat) (p : WkPhase) : Prop where
  lock : p.holds = true → jl = some (.k j)
  noSend : p ≠ .sendFlush

def Holds (s : State) : Holder → Prop
  | .w i => ∃ w, s.writers[i]? = some w ∧ w.phase.holds = true
  | .k j => ∃ p, s.workers[j]? = some p ∧ p.holds = true

structure Inv (s : State) : Prop where
  wOk : ∀ (i : Nat) (w : Writer), s.writers[i]? = some w → WOk s.jlock i w
  kOk : ∀ (j : Nat) (p : WkPhase), s.workers[j]? = some p → KOk s.jlock j p
  held : ∀ y, s.jlock = some y → Holds s y
  sealedLe : s.sealed ≤ s.tasks + s.workers.countP WkPhase.flushy
  tasksLe : s.tasks ≤ s.fl

theorem init_inv (progs : List (List Bool)) (n : Nat) : Inv (init progs n) := by
  refine ⟨?_, ?_, nofun, Nat.zero_le _, Nat.le_refl _⟩
  · intro i w h
    obtain ⟨p, _, rfl⟩ : ∃ p, progs[i]? = some p ∧ { todo := p } = w := by simpa [init] using h
    exact ⟨nofun, nofun, fun h => absurd rfl h⟩
  · intro j p h
    cases (List.mem_replicate.mp (List.mem_of_getElem? h)).2
    exact ⟨nofun, nofun⟩

def wEnabled (cfg : Cfg) (s : State) (w : Writer) : Bool :=
  match w.phase, w.todo with
  | .idle, _ :: _ => s.jlock.isNone
  | .idle, [] => false
  | .locked, _ :: _ => true
  | .locked, [] => false
  | .stalling, _ => decide (s.sealed < cfg.limit)
  | .stallingLocked, _ => decide (s.sealed < cfg.limit)

def kEnabled (cfg : Cfg) (s : State) (pick : Pick) : WkPhase → Bool
  | .idle => match pick with
    | .rot => !s.rotq.isEmpty
    | .flush => decide (s.fl > 0)
    | .compact => decide (s.cp > 0)
  | .rotWait _ => s.jlock.isNone
  | .flushWait => s.jlock.isNone
  | .sendFlush => s.room cfg
  | _ => true

def enabled (cfg : Cfg) (s : State) : Tid → Bool
  | .writer i => match s.writers[i]? with
    | some w => wEnabled cfg s w
    | none => false
  | .worker j pick => match s.workers[j]? with
    | some p => kEnabled cfg s pick p
    | none => false

theorem enabled_writer {cfg : Cfg} {s : State} {i : Nat} {w : Writer} (hw : s.writers[i]? = some w) :
    enabled cfg s (.writer i) = wEnabled cfg s w := by
  rw [enabled, hw]

theorem enabled_worker {cfg : Cfg} {s : State} {j : Nat} {p : WkPhase} {pick : Pick} (hp : s.workers[j]? = some p) :
    enabled cfg s (.worker j pick) = kEnabled cfg s pick p := by
  rw [enabled, hp]

theorem wEnabled_of_todo {cfg : Cfg} {s : State} {i : Nat} {w : Writer} (ho : WOk s.jlock i w) (hne : w.todo ≠ [])
    (hl : s.jlock = none ∧ s.sealed < cfg.limit ∨ w.phase.holds = true) : wEnabled cfg s w = true := by
  obtain ⟨todo, ph⟩ := w
  cases todo with
  | nil => exact absurd rfl hne
  | cons b tl =>
  cases ph with
  | idle => exact hl.elim (fun e => Option.isNone_iff_eq_none.mpr e.1) nofun
  | locked => rfl
  | stalling => exact hl.elim (fun e => decide_eq_true e.2) nofun
  | stallingLocked => exact absurd rfl ho.noSL

theorem kEnabled_of_ne_idle {cfg : Cfg} {s : State} {j : Nat} {p : WkPhase} {pick : Pick} (ho : KOk s.jlock j p)
    (hne : p ≠ .idle) (hl : s.jlock = none ∨ p.holds = true) : kEnabled cfg s pick p = true := by
  cases p with
  | idle => exact absurd rfl hne
  | sendFlush => exact absurd rfl ho.noSend
  | rotWait g => exact hl.elim Option.isNone_iff_eq_none.mpr nofun
  | flushWait => exact hl.elim Option.isNone_iff_eq_none.mpr nofun
  | _ => rfl

theorem stepT_cases {motive : Bool → State → Prop} (cfg : Cfg) (s : State) (tid : Tid)
    (writer : ∀ i w, s.writers[i]? = some w → motive (wEnabled cfg s w) (stepWriter cfg s i w))
    (worker : ∀ j pick p, s.workers[j]? = some p → motive (kEnabled cfg s pick p) (stepWorker cfg s j pick p))
    (absent : motive false s) : motive (enabled cfg s tid) (stepT cfg s tid) := by
  cases tid with
  | writer i =>
    simp only [enabled, stepT]
    cases hw : s.writers[i]? with
    | none => exact absent
    | some w => exact writer i w hw
  | worker j pick =>
    simp only [enabled, stepT]
    cases hp : s.workers[j]? with
    | none => exact absent
    | some p => exact worker j pick p hp

theorem enabled_false_of_forall {cfg : Cfg} {s : State} (hw : ∀ w ∈ s.writers, wEnabled cfg s w = false)
    (hk : ∀ pick, ∀ p ∈ s.workers, kEnabled cfg s pick p = false) (tid : Tid) : enabled cfg s tid = false :=
  stepT_cases (motive := fun e _ => e = false) cfg s tid
    (fun _ w h => hw w (List.mem_of_getElem? h)) (fun _ pick p h => hk pick p (List.mem_of_getElem? h)) rfl

/-- `was` / `now`: the stepping thread `me` is in a phase that holds the lock before / after its step.
    `hlk` has the shape that every leaf of `stepWriter` and `stepWorker` proves by `rfl`. -/
theorem lock_others {jl jl' : Option Holder} {me : Holder} {was now : Bool}
    (hlk : jl' = if now then some me else if was then none else jl)
    (hacq : now = true → jl = none) (hwas : was = true → jl = some me) (y : Holder) (hy : y ≠ me) :
    jl' = some y ↔ jl = some y := by
  rw [hlk]
  cases now with
  | true => simp [hacq rfl, Ne.symm hy]
  | false =>
    cases was with
    | true => simp [hwas rfl, Ne.symm hy]
    | false => simp

theorem lock_mine {jl jl' : Option Holder} {me : Holder} {was now : Bool}
    (hlk : jl' = if now then some me else if was then none else jl)
    (hmine : jl = some me → was = true) (h : jl' = some me) : now = true := by
  cases now with
  | true => rfl
  | false =>
    cases was with
    | true => simp [hlk] at h
    | false => rw [hlk] at h; exact hmine h

theorem Inv.writer_step {s : State} {i : Nat} {w w' : Writer} {jl' : Option Holder} {over' : Bool} {rotq' : List Nat}
    (h : Inv s) (hw : s.writers[i]? = some w)
    (hlk : jl' = if w'.phase.holds then some (.w i) else if w.phase.holds then none else s.jlock)
    (hacq : w'.phase.holds = true → s.jlock = none) (hns : w'.phase ≠ .stallingLocked)
    (hbusy : w'.phase ≠ .idle → w'.todo ≠ []) :
    Inv { s with jlock := jl', over := over', rotq := rotq', writers := s.writers.set i w' } := by
  have hlen := (List.getElem?_eq_some_iff.mp hw).1
  have hoth := lock_others hlk hacq (h.wOk i w hw).lock
  refine ⟨?_, ?_, ?_, h.sealedLe, h.tasksLe⟩
  · exact forall_set h.wOk i ⟨fun hh => by rw [hlk, if_pos hh], hns, hbusy⟩ fun i' q e ho =>
      ⟨fun hh => (hoth _ (fun x => e (Holder.w.inj x))).mpr (ho.lock hh), ho.noSL, ho.busy⟩
  · intro j p hp
    have ho := h.kOk j p hp
    exact ⟨fun hh => (hoth (.k j) nofun).mpr (ho.lock hh), ho.noSend⟩
  · intro y hy
    by_cases e : y = .w i
    · subst e
      refine ⟨w', List.getElem?_set_self hlen, lock_mine hlk (fun e => ?_) hy⟩
      obtain ⟨q, h1, h2⟩ := h.held _ e
      rw [hw] at h1; cases h1; exact h2
    · have := h.held y ((hoth y e).mp hy)
      cases y with
      | w i' =>
        obtain ⟨q, h1, h2⟩ := this
        exact ⟨q, (List.getElem?_set_ne (fun x => e (by rw [x]))).trans h1, h2⟩
      | k j => exact this

/-- `hse`: every sealed memtable stays covered by a queued task or a worker on its way to flush, or
    everything sealed has just been flushed. -/
theorem Inv.worker_step {s s' : State} {j : Nat} {p p' : WkPhase} (h : Inv s) (hp : s.workers[j]? = some p)
    (hws : s'.writers = s.writers) (hwk : s'.workers = s.workers.set j p')
    (hlk : s'.jlock = if p'.holds then some (.k j) else if p.holds then none else s.jlock)
    (hacq : p'.holds = true → s.jlock = none) (hns : p' ≠ .sendFlush)
    (hse : s'.sealed + p.flushy.toNat + s.tasks ≤ s.sealed + p'.flushy.toNat + s'.tasks ∨ s'.sealed = 0)
    (hta : s'.tasks ≤ s'.fl) : Inv s' := by
  have hlen := (List.getElem?_eq_some_iff.mp hp).1
  have hoth := lock_others hlk hacq (h.kOk j p hp).lock
  refine ⟨?_, ?_, ?_, ?_, hta⟩
  · intro i w hw
    rw [hws] at hw
    have ho := h.wOk i w hw
    exact ⟨fun hh => (hoth (.w i) nofun).mpr (ho.lock hh), ho.noSL, ho.busy⟩
  · exact hwk ▸ forall_set h.kOk j ⟨fun hh => by rw [hlk, if_pos hh], hns⟩ fun j' q e ho =>
      ⟨fun hh => (hoth _ (fun x => e (Holder.k.inj x))).mpr (ho.lock hh), ho.noSend⟩
  · intro y hy
    by_cases e : y = .k j
    · subst e
      refine ⟨p', by rw [hwk, List.getElem?_set_self hlen], lock_mine hlk (fun e => ?_) hy⟩
      obtain ⟨q, h1, h2⟩ := h.held _ e
      rw [hp] at h1; cases h1; exact h2
    · have := h.held y ((hoth y e).mp hy)
      cases y with
      | w i => obtain ⟨w, h1, h2⟩ := this; exact ⟨w, by rw [hws]; exact h1, h2⟩
      | k j' =>
        obtain ⟨q, h1, h2⟩ := this
        exact ⟨q, by rw [hwk, List.getElem?_set_ne (fun x => e (by rw [x]))]; exact h1, h2⟩
  · have hc := countP_set WkPhase.flushy hp p'
    have := h.sealedLe
    rw [hwk]
    rcases hse with hse | hse
    · omega
    · rw [hse]; exact Nat.zero_le _

theorem sendCompacts_eq (cfg : Cfg) (n : Nat) (s : State) :
    ∃ d, d ≤ n ∧ s.sendCompacts cfg n = { s with cp := s.cp + d } := by
  induction n generalizing s with
  | zero => exact ⟨0, Nat.le_refl _, rfl⟩
  | succ n ih =>
    rw [State.sendCompacts]
    split
    · obtain ⟨d, hd, e⟩ := ih { s with cp := s.cp + 1 }
      exact ⟨d + 1, Nat.succ_le_succ hd, e.trans (congrArg (fun c => { s with cp := c }) (Nat.add_right_comm s.cp 1 d))⟩
    · obtain ⟨d, hd, e⟩ := ih s
      exact ⟨d, Nat.le_succ_of_le hd, e⟩

theorem Inv.sendCompacts {s : State} (h : Inv s) (cfg : Cfg) (n : Nat) : Inv (s.sendCompacts cfg n) := by
  obtain ⟨d, _, e⟩ := sendCompacts_eq cfg n s
  rw [e]; exact ⟨h.wOk, h.kOk, h.held, h.sealedLe, h.tasksLe⟩

theorem stepWriter_inv {cfg : Cfg} (hu : cfg.unlockBeforeStall = true) {s : State} {i : Nat} {w : Writer}
    (h : Inv s) (hw : s.writers[i]? = some w) : Inv (stepWriter cfg s i w) := by
  have hWo := h.wOk i w hw
  obtain ⟨todo, ph⟩ := w
  fun_cases stepWriter cfg s i _
  -- the writer waits or has nothing to do: the state is unchanged
  case case2 | case3 | case6 | case7 => exact h
  -- idle: takes the free lock
  case case1 b tl htd hph hl =>
    cases htd
    exact h.writer_step hw (hlk := rfl) (fun _ => Option.isNone_iff_eq_none.mp hl) nofun nofun
  -- locked: journal write done, `drop(journal_writer)`, then the rotation request of `maintenance`
  case case4 b tl htd hph over rotq _ =>
    cases htd; cases hph
    exact h.writer_step hw (hlk := rfl) nofun nofun nofun
  case case5 hn => exact absurd hu hn
  -- stalling, fewer sealed memtables than the limit: the write is complete
  case case8 hph hs =>
    cases hph
    exact h.writer_step hw (hlk := rfl) nofun nofun (fun hh => absurd rfl hh)
  case case9 | case10 => exact absurd (by assumption) hWo.noSL

theorem stepWorker_inv {cfg : Cfg} (hbs : cfg.workerBlockingSend = false) {s : State} {j : Nat} {pick : Pick}
    {p : WkPhase} (h : Inv s) (hp : s.workers[j]? = some p) : Inv (stepWorker cfg s j pick p) := by
  have hta := h.tasksLe
  fun_cases stepWorker cfg s j pick p
  -- the worker waits (no message, lock taken): the state is unchanged
  case case2 | case5 | case7 | case9 | case17 => exact h
  -- the blocking send and its phase do not occur
  case case10 hb => rw [hbs] at hb; cases hb
  case case14 | case15 => exact absurd rfl (h.kOk j _ hp).noSend
  -- lock given up or left alone, `sealed`, `tasks` and the worker's distance to a flush as before
  case case1 | case6 | case13 | case18 | case20 =>
    exact h.worker_step hp (hws := rfl) (hwk := rfl) (hlk := rfl) nofun nofun (.inl (Nat.le_refl _)) hta
  -- rotWait, flushWait: the worker takes the free lock
  case case8 | case16 =>
    exact h.worker_step hp (hws := rfl) (hwk := rfl) (hlk := rfl)
      (fun _ => Option.isNone_iff_eq_none.mp (by assumption)) nofun (.inl (Nat.le_refl _)) hta
  -- idle + `Flush`: `flush_manager.dequeue()` gives a task, the worker stands for it from here on
  case case3 hf ht =>
    exact h.worker_step hp (hws := rfl) (hwk := rfl) (hlk := rfl) nofun nofun
      (.inl (by simp [WkPhase.flushy]; omega)) (Nat.sub_le_sub_right hta 1)
  -- idle + `Flush`: `dequeue()` gives nothing, only the message is gone
  case case4 hf ht => exact { h with tasksLe := by simp only; omega }
  -- rotated: one more sealed memtable, one more task, and `try_send(Flush)` went through
  case case11 s1 _ _ =>
    exact h.worker_step hp (hws := rfl) (hwk := rfl) (hlk := rfl) nofun nofun
      (.inl (by simp [WkPhase.flushy, s1]; omega)) (Nat.succ_le_succ hta)
  -- rotated, no room for `Flush`: `handle_message(ctx, Flush)` at once takes a task (fix F24)
  case case12 s1 _ _ =>
    exact h.worker_step hp (hws := rfl) (hwk := rfl) (hlk := rfl) nofun nofun
      (.inl (by simp [WkPhase.flushy, s1])) hta
  -- flushing: every sealed memtable goes into the table, then the `Compact` messages
  case case19 =>
    exact (h.worker_step (s' := { s with sealed := 0, workers := s.workers.set j .idle }) hp
      (hws := rfl) (hwk := rfl) (hlk := rfl) nofun nofun (.inr rfl) hta).sendCompacts cfg cfg.fanout

theorem step_inv (cfg : Cfg) (hc : cfg.Live) (s : State) (tid : Tid) (h : Inv s) : Inv (stepT cfg s tid) :=
  stepT_cases (motive := fun _ s' => Inv s') cfg s tid
    (fun _ _ => stepWriter_inv hc.2.1 h) (fun _ _ _ => stepWorker_inv hc.1 h) h

theorem run_inv (cfg : Cfg) (hc : cfg.Live) (s : State) (sched : List Tid) (h : Inv s) :
    Inv (run cfg s sched) :=
  List.foldlRecOn (motive := Inv) sched _ h fun s hs t _ => step_inv cfg hc s t hs

theorem stepT_workers_length (cfg : Cfg) (s : State) (tid : Tid) :
    (stepT cfg s tid).workers.length = s.workers.length :=
  stepT_cases (motive := fun _ s' => s'.workers.length = s.workers.length) cfg s tid
    (fun i w _ => by fun_cases stepWriter cfg s i w <;> rfl)
    (fun j pick p _ => by
      fun_cases stepWorker cfg s j pick p
      -- waiting, or a `Flush` without task: `workers` untouched
      case case2 | case4 | case5 | case7 | case9 | case15 | case17 => rfl
      case case19 =>
        obtain ⟨d, _, e⟩ := sendCompacts_eq cfg cfg.fanout { s with sealed := 0, workers := s.workers.set j .idle }
        rw [e]; exact List.length_set
      all_goals exact List.length_set)
    rfl

theorem run_workers_length (cfg : Cfg) (s : State) (sched : List Tid) :
    (run cfg s sched).workers.length = s.workers.length :=
  List.foldlRecOn (motive := fun s' => s'.workers.length = s.workers.length) sched _ rfl fun s' hs t _ =>
    (stepT_workers_length cfg s' t).trans hs

end Fjall.Stall
