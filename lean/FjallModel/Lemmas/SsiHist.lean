/-
  Whole histories of optimistic transactions.  `HInv` = `DbOk` (tracker, log, conflict table, open
  transactions, each `OpenOk`) + the ghost lists.  A commit of a transaction with own writes is
  prune ; apply ; close the nonce, one without own writes only closes its nonce (`SsiDb.commit_eq`:
  `ssiSem.validate`, `ssiSem.apply`, `rollback`), and `DbOk` is kept by each.
-/
import FjallModel.Lemmas.Ssi
import FjallModel.Lemmas.Tracker
import FjallModel.Tx.CommitMutex
namespace Fjall.Tx
open Fjall Fjall.Spec

structure OpenTx where
  tx : OTx
  /-- operations executed so far, oldest first, and what they returned -/
  prog : List XOp := []
  outs : List XOut := []

structure DoneTx where
  prog : List XOp
  outs : List XOut
  /-- the committed log right before its commit (newest first) -/
  before : List LogEntry
  batch : List TEntry

inductive HEv
  | begin
  /-- `n` = position in the list of open transactions -/
  | op (n : Nat) (o : XOp)
  | commit (n : Nat)
  | rollback (n : Nat)
  | gc

structure HSt where
  db : SsiDb := {}
  open_ : List OpenTx := []
  done : List DoneTx := []
  /-- read-only transactions that committed; `before` = the part of the log their snapshot contains -/
  doneRo : List DoneTx := []
  /-- ghost: instants of the live nonces -/
  live : List Nat := []

def hstep (s : HSt) : HEv → HSt
  | .begin =>
    let (db', t) := s.db.begin
    { s with db := db', open_ := { tx := t } :: s.open_, live := t.instant :: s.live }
  | .op n o =>
    match s.open_[n]? with
    | none => s
    | some T =>
      let (t', out) := xstep T.tx o
      { s with open_ := s.open_.set n { tx := t', prog := T.prog ++ [o], outs := T.outs ++ [out] } }
  | .commit n =>
    match s.open_[n]? with
    | none => s
    | some T =>
      let (db', oc) := s.db.commit T.tx
      { db := db', open_ := s.open_.eraseIdx n, live := s.live.erase T.tx.instant,
        done := if oc = .ok ∧ T.tx.base.mem.isEmpty = false
                then s.done ++ [{ prog := T.prog, outs := T.outs, before := s.db.log, batch := T.tx.base.commitBatch }]
                else s.done,
        doneRo := if T.tx.base.mem.isEmpty
                then s.doneRo ++ [{ prog := T.prog, outs := T.outs, before := s.db.log.filter (fun b => b.seqno < T.tx.instant), batch := [] }]
                else s.doneRo }
  | .rollback n =>
    match s.open_[n]? with
    | none => s
    | some T => { s with db := s.db.rollback T.tx, open_ := s.open_.eraseIdx n, live := s.live.erase T.tx.instant }
  | .gc => { s with db := { s.db with tr := Tracker.gcWith s.db.tr.data s.db.tr } }

def hrun (s : HSt) (evs : List HEv) : HSt := evs.foldl hstep s

theorem gcWith_seqno (ord : List (Nat × Nat)) (t : Tracker.Tracker) : (Tracker.gcWith ord t).seqno = t.seqno := rfl

theorem close_seqno (t : Tracker.Tracker) (i : Nat) : (Tracker.step t (.close i)).seqno = t.seqno := by
  simp only [Tracker.step]
  split <;> rfl

structure OpenOk (db : SsiDb) (T : OpenTx) : Prop where
  instLe : T.tx.instant ≤ db.tr.seqno
  replay : xrun (fresh T.tx.instant (stateAt db.log T.tx.instant)) T.prog = (T.tx, T.outs)
  marked : ∀ e ∈ T.tx.base.mem, (e.ks, e.key) ∈ T.tx.wkeys
  covered : ∀ e ∈ db.log, T.tx.instant ≤ e.seqno →
    ∃ c ∈ db.committed, c.ts = e.seqno + 1 ∧ ∀ it ∈ e.items, (it.ks, it.key) ∈ c.keys

inductive Chain : List DoneTx → List LogEntry → Prop
  | nil : Chain [] []
  | snoc (ds : List DoneTx) (L : List LogEntry) (d : DoneTx) (sq : Nat) :
      Chain ds L → d.before = L → Chain (ds ++ [d]) (⟨sq, d.batch⟩ :: L)

theorem OpenOk.frame {db db' : SsiDb} {T : OpenTx} (h : OpenOk db T) (hlog : db'.log = db.log)
    (hseq : db.tr.seqno ≤ db'.tr.seqno)
    (hcom : ∀ c ∈ db.committed, T.tx.instant < c.ts → c ∈ db'.committed) : OpenOk db' T := by
  refine ⟨Nat.le_trans h.instLe hseq, hlog ▸ h.replay, h.marked, fun e he hle => ?_⟩
  obtain ⟨c, hc, hts, hk⟩ := h.covered e (hlog ▸ he) hle
  exact ⟨c, hcom c hc (by omega), hts, hk⟩

theorem OpenOk.xstep {db : SsiDb} {T : OpenTx} (h : OpenOk db T) (o : XOp) :
    OpenOk db { tx := (xstep T.tx o).1, prog := T.prog ++ [o], outs := T.outs ++ [(xstep T.tx o).2] } := by
  refine ⟨(xstep_instant ..).symm ▸ h.instLe, ?_, fun e he => ?_, (xstep_instant ..).symm ▸ h.covered⟩
  · show xrun (fresh (Tx.xstep T.tx o).1.instant _) _ = _
    rw [xstep_instant, xrun_snoc, h.replay]
  · exact (xstep_marks T.tx o e he).elim (fun h1 => xstep_wkeys_mono T.tx o _ (h.marked e h1)) id

theorem ssiSem_validate_snd (db : SsiDb) (t : OTx) : (CommitMutex.ssiSem.validate db t).2 =
    !(db.committed.any fun c => c.ts ≥ t.instant + 1 && hasConflict t.reads c.keys) := rfl

theorem ssiSem_validate_ok_iff (db : SsiDb) (t : OTx) : (CommitMutex.ssiSem.validate db t).2 = true ↔
    ∀ c ∈ db.committed, t.instant < c.ts → hasConflict t.reads c.keys = false := by
  simp only [ssiSem_validate_snd, Bool.not_eq_true', List.any_eq_false, Bool.and_eq_true, decide_eq_true_eq, not_and,
    Bool.not_eq_true]
  exact Iff.rfl

theorem OpenOk.replays_at_commit {db : SsiDb} {T : OpenTx} (h : OpenOk db T)
    (hv : (CommitMutex.ssiSem.validate db T.tx).2 = true) (i' : Nat) :
    (xrun (fresh i' (stateTop db.log)) T.prog).2 = T.outs ∧
    (xrun (fresh i' (stateTop db.log)) T.prog).1.base.commitBatch = T.tx.base.commitBatch := by
  have := xrun_congr_snap (agreeOn_of_valid (S := stateAt db.log T.tx.instant) (S' := stateTop db.log)
    (prog := T.prog) T.tx.instant ?_) T.tx.instant i'
  · rwa [h.replay] at this
  · intro ks k hk
    rw [h.replay] at hk
    symm
    apply stateTop_get_eq_stateAt
    intro e he hge it hit ⟨hks, hkk⟩
    -- `e` was committed since the snapshot, so it is still in the conflict table, and validation looked at it
    obtain ⟨c, hc, hts, hkeys⟩ := h.covered e he hge
    exact hk c.keys ((ssiSem_validate_ok_iff db T.tx).mp hv c hc (by omega)) (hks ▸ hkk ▸ hkeys it hit)

structure DbOk (db : SsiDb) (opens : List OpenTx) (live : List Nat) : Prop where
  trk : Tracker.Inv ⟨db.tr, live⟩
  perm : (opens.map (·.tx.instant)).Perm live
  seqLe : db.tr.seqno ≤ db.seqno
  logBelow : ∀ e ∈ db.log, e.seqno < db.tr.seqno
  openOk : ∀ T ∈ opens, OpenOk db T

theorem DbOk.live {db opens live} (h : DbOk db opens live) {T : OpenTx} (hT : T ∈ opens) :
    T.tx.instant ∈ live :=
  h.perm.subset (List.mem_map.mpr ⟨T, hT, rfl⟩)

theorem DbOk.tracker {db opens live} (h : DbOk db opens live) (o : Tracker.Op)
    (hd : Tracker.Disciplined ⟨db.tr, live⟩ o) (hs : (Tracker.step db.tr o).seqno = db.tr.seqno)
    {opens'} (hp : (opens'.map (·.tx.instant)).Perm (Tracker.stepG ⟨db.tr, live⟩ o).live)
    (ho : ∀ T ∈ opens', T ∈ opens ∨ OpenOk db T) :
    DbOk { db with tr := Tracker.step db.tr o } opens' (Tracker.stepG ⟨db.tr, live⟩ o).live := by
  refine ⟨?_, hp, hs ▸ h.seqLe, hs ▸ h.logBelow, fun T hT => ?_⟩
  · rw [← Tracker.stepG_t ⟨db.tr, live⟩ o]; exact Tracker.step_inv _ o hd h.trk
  · exact ((ho T hT).elim (h.openOk T) id).frame rfl (Nat.le_of_eq hs.symm) fun _ hc _ => hc

theorem DbOk.close {db opens live} (h : DbOk db opens live) {n : Nat} {T : OpenTx} (hT : opens[n]? = some T) :
    DbOk (db.rollback T.tx) (opens.eraseIdx n) (live.erase T.tx.instant) := by
  refine h.tracker (.close T.tx.instant) (h.live (List.mem_of_getElem? hT)) (close_seqno ..) ?_
    fun T' hT' => .inl (List.mem_of_mem_eraseIdx hT')
  have p := ((perm_eraseIdx opens n T hT).map (·.tx.instant)).symm.trans h.perm
  show List.Perm _ (live.erase T.tx.instant)
  simpa using p.erase T.tx.instant

/-- the watermark is below every live snapshot, so pruning keeps what `covered` needs -/
theorem DbOk.prune {db opens live} (h : DbOk db opens live) (t : OTx) :
    DbOk (CommitMutex.ssiSem.validate db t).1 opens live := by
  refine ⟨h.trk, h.perm, h.seqLe, h.logBelow, fun T hT => (h.openOk T hT).frame rfl (Nat.le_refl _) ?_⟩
  intro c hc hlt
  have : db.tr.wm ≤ T.tx.instant - 1 := h.trk.safe _ (h.live hT)
  exact List.mem_filter.mpr ⟨hc, decide_eq_true (show db.tr.wm < c.ts by omega)⟩

/-- the new batch lies at or above every open snapshot, and its keys are registered -/
theorem DbOk.apply {db opens live} (h : DbOk db opens live) {t : OTx}
    (hm : ∀ e ∈ t.base.mem, (e.ks, e.key) ∈ t.wkeys) : DbOk (CommitMutex.ssiSem.apply db t) opens live := by
  have hpub : (Tracker.step db.tr (.publish db.seqno)).seqno = db.seqno + 1 :=
    Nat.max_eq_right (Nat.le_succ_of_le h.seqLe)
  refine ⟨Tracker.step_inv ⟨db.tr, live⟩ (.publish db.seqno) trivial h.trk, h.perm, Nat.le_of_eq hpub, ?_, ?_⟩
  · intro e he
    show e.seqno < (Tracker.step db.tr (.publish db.seqno)).seqno
    rw [hpub]
    rcases List.mem_cons.mp he with rfl | he
    · exact Nat.lt_succ_self _
    · have := h.logBelow e he; have := h.seqLe; omega
  · intro T hT
    obtain ⟨a, b, c, d⟩ := h.openOk T hT
    have hle : T.tx.instant ≤ db.seqno := Nat.le_trans a h.seqLe
    refine ⟨?_, ?_, c, fun e he hge => ?_⟩
    · show T.tx.instant ≤ (Tracker.step db.tr (.publish db.seqno)).seqno
      omega
    · show xrun (fresh T.tx.instant (stateAt (_ :: db.log) T.tx.instant)) T.prog = _
      rw [stateAt_cons_ge _ _ hle]; exact b
    · rcases List.mem_cons.mp he with rfl | he
      · exact ⟨_, List.mem_append_right _ (List.mem_singleton.mpr rfl), hpub,
          fun it hit => hm it ((commitItems_sublist _).subset hit)⟩
      · obtain ⟨c', hc', hts, hk⟩ := d e he hge
        exact ⟨c', List.mem_append_left _ hc', hts, hk⟩

/-- `WriteTransaction::commit`: nothing to do for a read-only transaction; otherwise
    `Oracle::with_commit` as one event; either way the nonce is dropped afterwards -/
theorem SsiDb.commit_eq (db : SsiDb) (t : OTx) : db.commit t =
    if t.base.mem.isEmpty then (db.rollback t, .ok)
    else ((CommitMutex.ssiSem.atomic db t).1.rollback t,
          if (CommitMutex.ssiSem.atomic db t).2 then .ok else .conflict) := by
  unfold SsiDb.commit
  by_cases hm : t.base.mem.isEmpty = true
  · rw [if_pos hm, if_pos hm]; rfl
  · rw [if_neg hm, if_neg hm]
    unfold CommitMutex.Sem.atomic
    rw [ssiSem_validate_snd]
    cases (db.committed.any fun c => c.ts ≥ t.instant + 1 && hasConflict t.reads c.keys) <;> rfl

theorem SsiDb.commit_conflict {db : SsiDb} {t : OTx} (h : (db.commit t).2 = .conflict) :
    (db.commit t).1 = (CommitMutex.ssiSem.validate db t).1.rollback t := by
  rw [SsiDb.commit_eq] at h ⊢
  by_cases hm : t.base.mem.isEmpty = true
  · rw [if_pos hm] at h; cases h
  · rw [if_neg hm] at h ⊢
    have hat : CommitMutex.ssiSem.atomic db t = if (CommitMutex.ssiSem.validate db t).2 = true then _ else _ := rfl
    by_cases hv : (CommitMutex.ssiSem.validate db t).2 = true
    · rw [hat, if_pos hv] at h; cases h
    · rw [hat, if_neg hv]

structure HInv (s : HSt) : Prop where
  db : DbOk s.db s.open_ s.live
  doneOk : ∀ d ∈ s.done, ∀ i', (xrun (fresh i' (stateTop d.before)) d.prog).2 = d.outs ∧
    (xrun (fresh i' (stateTop d.before)) d.prog).1.base.commitBatch = d.batch
  roOk : ∀ d ∈ s.doneRo, ∀ i', (xrun (fresh i' (stateTop d.before)) d.prog).2 = d.outs
  chain : Chain s.done s.db.log

theorem init_hinv : HInv {} :=
  ⟨⟨Tracker.init_inv, .nil, Nat.le_refl _, fun _ h => absurd h List.not_mem_nil, fun _ h => absurd h List.not_mem_nil⟩,
    fun _ h => absurd h List.not_mem_nil, fun _ h => absurd h List.not_mem_nil, .nil⟩

theorem hstep_inv (s : HSt) (ev : HEv) (h : HInv s) : HInv (hstep s ev) := by
  cases ev with
  | begin =>
    refine ⟨h.db.tracker .open trivial rfl (List.Perm.cons _ h.db.perm) fun T hT => ?_, h.doneOk, h.roOk, h.chain⟩
    rcases List.mem_cons.mp hT with rfl | hT
    · exact .inr ⟨Nat.le_refl _, rfl, nofun,
        fun e he hle => absurd (h.db.logBelow e he) (Nat.not_lt.mpr hle)⟩
    · exact .inl hT
  | gc =>
    exact ⟨h.db.tracker (.gc s.db.tr.data) (List.Perm.refl _) rfl h.db.perm fun T hT => .inl hT,
      h.doneOk, h.roOk, h.chain⟩
  | op n o =>
    rw [hstep]
    cases hT : s.open_[n]? with
    | none => exact h
    | some T =>
      refine ⟨⟨h.db.trk, ?_, h.db.seqLe, h.db.logBelow, fun T' hT' => ?_⟩, h.doneOk, h.roOk, h.chain⟩
      · show ((s.open_.set n _).map (·.tx.instant)).Perm s.live
        rw [map_set_of_eq (·.tx.instant) (xstep_instant ..) _ _ hT]; exact h.db.perm
      · rcases List.mem_or_eq_of_mem_set hT' with h1 | rfl
        · exact h.db.openOk T' h1
        · exact (h.db.openOk T (List.mem_of_getElem? hT)).xstep o
  | rollback n =>
    rw [hstep]
    cases hT : s.open_[n]? with
    | none => exact h
    | some T => exact ⟨h.db.close hT, h.doneOk, h.roOk, h.chain⟩
  | commit n =>
    rw [hstep]
    cases hT : s.open_[n]? with
    | none => exact h
    | some T =>
      have hok := h.db.openOk T (List.mem_of_getElem? hT)
      simp only [SsiDb.commit_eq]
      by_cases hro : T.tx.base.mem.isEmpty = true
      · -- read-only: the nonce is released, the record goes to `doneRo`
        simp only [hro, if_true, Bool.true_eq_false, and_false, if_false]
        refine ⟨h.db.close hT, h.doneOk, forall_mem_snoc h.roOk fun i' => ?_, h.chain⟩
        dsimp only
        rw [stateTop_filter, (xrun_instant_irrelevant _ _ T.tx.instant i').1, hok.replay]
      · have hp := h.db.prune T.tx
        simp only [hro, Bool.false_eq_true, if_false, and_true, CommitMutex.Sem.atomic]
        by_cases hv : (CommitMutex.ssiSem.validate s.db T.tx).2 = true
        · -- validated: pruned, applied, closed; the record goes to `done`
          simp only [hv, if_true]
          exact ⟨(hp.apply hok.marked).close hT, forall_mem_snoc h.doneOk (hok.replays_at_commit hv), h.roOk,
            Chain.snoc _ _ _ _ h.chain rfl⟩
        · -- refused: pruned and closed
          simp only [hv, if_false, reduceCtorEq]
          exact ⟨hp.close hT, h.doneOk, h.roOk, h.chain⟩

theorem hrun_inv (s : HSt) (evs : List HEv) (h : HInv s) : HInv (hrun s evs) :=
  List.foldlRecOn (motive := HInv) evs _ h fun s hs e _ => hstep_inv s e hs

end Fjall.Tx
