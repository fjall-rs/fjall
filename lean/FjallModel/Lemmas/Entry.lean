/-
  The entry codec. The tags are pairwise distinct (`Params.Valid`), so after each tag `decodeEntry`
  is the parser of that branch, which is how `decode_encode` goes through. That `decodeEntry` is
  local and yields an entry whose tag is the first byte read follows the parser combinator by
  combinator.
-/
import FjallModel.Journal.Entry
namespace Fjall.Journal
open Fjall P

def Entry.tag (p : Params) : Entry → UInt8
  | .start .. => p.tagStart
  | .item .. => p.tagItem
  | .fin .. => p.tagEnd
  | .clear .. => p.tagClear

namespace Params.Valid
variable {p : Params} (hp : p.Valid)
include hp

theorem start_ne_item : p.tagStart ≠ p.tagItem := hp.1
theorem start_ne_end : p.tagStart ≠ p.tagEnd := hp.2.1
theorem start_ne_clear : p.tagStart ≠ p.tagClear := hp.2.2.1
theorem item_ne_end : p.tagItem ≠ p.tagEnd := hp.2.2.2.1
theorem item_ne_clear : p.tagItem ≠ p.tagClear := hp.2.2.2.2.1
theorem end_ne_clear : p.tagEnd ≠ p.tagClear := hp.2.2.2.2.2.1

theorem tag_ne_zero : ∀ e : Entry, e.tag p ≠ 0
  | .start .. => hp.2.2.2.2.2.2.1
  | .item .. => hp.2.2.2.2.2.2.2.1
  | .fin .. => hp.2.2.2.2.2.2.2.2.1
  | .clear .. => hp.2.2.2.2.2.2.2.2.2.1

theorem magic_ne_nil : p.magic ≠ [] := hp.2.2.2.2.2.2.2.2.2.2.1
theorem magic_last_ne_zero : p.magic.getLast? ≠ some 0 := hp.2.2.2.2.2.2.2.2.2.2.2

end Params.Valid

theorem tag_fin {p : Params} (hp : p.Valid) {e : Entry} (ht : e.tag p = p.tagEnd) :
    ∃ s, e = .fin s := by
  cases e with
  | start => exact absurd ht hp.start_ne_end
  | item => exact absurd ht hp.item_ne_end
  | fin s => exact ⟨s, rfl⟩
  | clear => exact absurd ht.symm hp.end_ne_clear

theorem tag_start {p : Params} (hp : p.Valid) {e : Entry} (ht : e.tag p = p.tagStart) :
    ∃ n s, e = .start n s := by
  cases e with
  | start n s => exact ⟨n, s, rfl⟩
  | item => exact absurd ht.symm hp.start_ne_item
  | fin s => exact absurd ht.symm hp.start_ne_end
  | clear => exact absurd ht.symm hp.start_ne_clear

theorem encodeEntry_head (p : Params) (c : Codec) (e : Entry) :
    ∃ t, encodeEntry p c e = e.tag p :: t := by
  cases e <;> exact ⟨_, rfl⟩

theorem encodeEntry_fin_length (p : Params) (c : Codec) (s : Nat) :
    (encodeEntry p c (.fin s)).length = 9 + p.magic.length := by
  rw [encodeEntry, List.length_append, List.length_append, leN_length]; rfl

theorem encodeEntry_fin_last (p : Params) (c : Codec) (s : Nat) (hm : p.magic ≠ []) :
    (encodeEntry p c (.fin s))[8 + p.magic.length]? = p.magic.getLast? := by
  rw [show 8 + p.magic.length = (encodeEntry p c (.fin s)).length - 1 by
      rw [encodeEntry_fin_length]; omega,
    ← List.getLast?_eq_getElem?, encodeEntry, List.getLast?_append]
  cases hl : p.magic.getLast? with
  | none => exact absurd (List.getLast?_eq_none_iff.mp hl) hm
  | some b => rfl

theorem decodeItemBody_local (c : Codec) : Local (decodeItemBody c) := by
  unfold decodeItemBody
  refine local_bind local_byte fun vt => ?_
  refine local_bind (local_ofOption _) fun kind => ?_
  refine local_bind local_byte fun cb => ?_
  refine local_bind (local_ofOption _) fun comp => ?_
  refine local_bind (local_nat _) fun ks => ?_
  refine local_bind (local_nat _) fun kl => ?_
  refine local_bind (local_nat _) fun vl => ?_
  refine local_bind (local_nat _) fun sl => ?_
  refine local_bind (local_take _) fun key => ?_
  refine local_bind (local_take _) fun stored => ?_
  cases comp
  · exact local_ite (fun _ => local_pure _) fun _ => local_fail
  · exact local_bind (local_ofOption _) fun _ => local_pure _

theorem decodeEntry_local (p : Params) (c : Codec) : Local (decodeEntry p c) := by
  refine local_bind local_byte fun t => ?_
  refine local_ite (fun _ => local_bind (local_nat _) fun _ => local_bind (local_nat _) fun _ =>
    local_pure _) fun _ => ?_
  refine local_ite (fun _ => decodeItemBody_local c) fun _ => ?_
  refine local_ite (fun _ => local_bind (local_nat _) fun _ => local_bind (local_take _) fun _ =>
    local_ite (fun _ => local_pure _) fun _ => local_fail) fun _ => ?_
  exact local_ite (fun _ => local_bind (local_nat _) fun _ => local_pure _) fun _ => local_fail

@[simp] theorem bind_byte_cons (b : UInt8) (r : Bytes) (g : UInt8 → P β) :
    bind byte g (b :: r) = g b r := rfl

theorem bind_nat_leN {k n : Nat} {r : Bytes} {g : Nat → P β} (h : n < 256 ^ k) :
    bind (nat k) g (leN k n ++ r) = g n r := by
  simp [P.bind, P.nat, rdN_leN k n r h]

theorem bind_take_append (l r : Bytes) (g : Bytes → P β) :
    bind (take l.length) g (l ++ r) = g l r := by
  simp [P.bind, P.take]

@[simp] theorem bind_ofOption_some (a : α) (g : α → P β) (x : Bytes) :
    bind (ofOption (some a)) g x = g a x := rfl

@[simp] theorem bind_pure (a : α) (g : α → P β) (x : Bytes) :
    bind (pure a) g x = g a x := rfl

section
variable {p : Params} {c : Codec} {y : Bytes}

theorem decodeEntry_tagStart : decodeEntry p c (p.tagStart :: y) =
    (P.bind (nat 4) fun n => P.bind (nat 8) fun s => P.pure (.start n s)) y :=
  congrFun (if_pos rfl) y

theorem decodeEntry_tagItem (hp : p.Valid) :
    decodeEntry p c (p.tagItem :: y) = decodeItemBody c y :=
  congrFun ((if_neg hp.start_ne_item.symm).trans (if_pos rfl)) y

theorem decodeEntry_tagEnd (hp : p.Valid) : decodeEntry p c (p.tagEnd :: y) =
    (P.bind (nat 8) fun s => P.bind (take p.magic.length) fun m =>
      if m = p.magic then P.pure (.fin s) else P.fail) y :=
  congrFun ((if_neg hp.start_ne_end.symm).trans ((if_neg hp.item_ne_end.symm).trans (if_pos rfl))) y

theorem decodeEntry_tagClear (hp : p.Valid) : decodeEntry p c (p.tagClear :: y) =
    (P.bind (nat 8) fun ks => P.pure (.clear ks)) y :=
  congrFun ((if_neg hp.start_ne_clear.symm).trans ((if_neg hp.item_ne_clear.symm).trans
    ((if_neg hp.end_ne_clear.symm).trans (if_pos rfl)))) y

end

theorem decode_encode (p : Params) (c : Codec) (hp : p.Valid) (hc : c.Law) (e : Entry)
    (he : e.WF c) (rest : Bytes) :
    decodeEntry p c (encodeEntry p c e ++ rest) = some (e, rest) := by
  -- the encoding as its tag, then each field in front of all that follows it
  cases e <;> simp only [encodeEntry, encodeItem, List.append_assoc, List.cons_append, List.nil_append]
  case start n s =>
    rw [decodeEntry_tagStart, bind_nat_leN he.1, bind_nat_leN he.2]
    rfl
  case fin s =>
    rw [decodeEntry_tagEnd hp, bind_nat_leN he, bind_take_append, if_pos rfl]
    rfl
  case clear ks =>
    rw [decodeEntry_tagClear hp, bind_nat_leN he]
    rfl
  case item i =>
    obtain ⟨hks, hkl, hvl, hsl⟩ := he
    rw [decodeEntry_tagItem hp]
    simp only [decodeItemBody, bind_byte_cons, Kind.ofByte_toByte, Comp.ofByte_toByte,
      bind_ofOption_some]
    rw [bind_nat_leN hks, bind_nat_leN hkl, bind_nat_leN hvl,
      bind_nat_leN hsl, bind_take_append, bind_take_append]
    obtain ⟨ks, key, val, kind, comp⟩ := i
    cases comp
    · simp [P.pure, Item.stored]
    · simp only [Item.stored]
      rw [hc val]
      rfl

theorem decodeEntry_nil (p : Params) (c : Codec) : decodeEntry p c [] = none := rfl

theorem decodeEntry_lt (p : Params) (c : Codec) (x : Bytes) (e : Entry) (r : Bytes)
    (h : decodeEntry p c x = some (e, r)) : r.length < x.length := by
  obtain ⟨pre, hx, hpre⟩ := decodeEntry_local p c x e r h
  cases pre with
  | nil =>
    have := hpre []
    simp [decodeEntry_nil] at this
  | cons b pre => rw [hx]; simp; omega

theorem decodeItemBody_item (c : Codec) :
    Yields (decodeItemBody c) fun e => ∃ i, e = .item i := by
  unfold decodeItemBody
  repeat (refine yields_bind fun _ => ?_)
  split
  · exact yields_ite (fun _ => yields_pure ⟨_, rfl⟩) fun _ => yields_fail
  · exact yields_bind fun _ => yields_pure ⟨_, rfl⟩

theorem decodeEntry_tag {p : Params} {c : Codec} {t : UInt8} {y : Bytes} {e : Entry} {r : Bytes}
    (h : decodeEntry p c (t :: y) = some (e, r)) : e.tag p = t := by
  refine (?_ : Yields _ fun e => e.tag p = t) y e r h
  refine yields_ite (fun ht => ht ▸ yields_bind fun _ => yields_bind fun _ => yields_pure rfl)
    fun _ => ?_
  refine yields_ite (fun ht x e r h => ?_) fun _ => ?_
  · obtain ⟨i, rfl⟩ := decodeItemBody_item c x e r h
    exact ht.symm
  refine yields_ite (fun ht => ht ▸ yields_bind fun _ => yields_bind fun _ =>
    yields_ite (fun _ => yields_pure rfl) fun _ => yields_fail) fun _ => ?_
  exact yields_ite (fun ht => ht ▸ yields_bind fun _ => yields_pure rfl) fun _ => yields_fail

theorem decodeEntry_zeros {p : Params} (c : Codec) (hp : p.Valid) (m : Nat) :
    decodeEntry p c (zeros m) = none := by
  cases m with
  | zero => rfl
  | succ m =>
    cases hd : decodeEntry p c (zeros (m + 1)) with
    | none => rfl
    | some er => exact absurd (decodeEntry_tag hd) (hp.tag_ne_zero er.1)

theorem decodeEntry_fin_inv {p : Params} {c : Codec} (hp : p.Valid) {x : Bytes} {s : Nat}
    {r : Bytes} (h : decodeEntry p c x = some (.fin s, r)) :
    x = encodeEntry p c (.fin s) ++ r := by
  cases x with
  | nil => cases h
  | cons t y =>
    obtain rfl : p.tagEnd = t := decodeEntry_tag h
    rw [decodeEntry_tagEnd hp] at h
    obtain ⟨s', r1, h1, h'⟩ := bind_eq_some.mp h
    obtain ⟨m, r2, h2, h''⟩ := bind_eq_some.mp h'
    obtain ⟨rfl, -⟩ := rdN_inv _ _ _ _ h1
    obtain ⟨rfl, -⟩ := take_eq_some.mp h2
    split at h''
    · cases h''
      simp [encodeEntry, *]
    · cases h''

end Fjall.Journal
