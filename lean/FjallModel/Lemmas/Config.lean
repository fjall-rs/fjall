/-
  A policy is stored as a count byte and that many elements, so it reads back for every element
  codec that reads its own encodings (`policy_roundtrip`; the element laws follow it). A row of
  `encodeKvs` is looked up by walking past the literal names in front of it (`lookup_cons_ne`); the
  rows of the strategy and of the blob options stand behind the 17 rows every option set has, whose
  names are passed in one step (`lookupRow_of_not_base`).
-/
import FjallModel.Config
import FjallModel.Lemmas.List
namespace Fjall.Config
open Fjall Fjall.P
open Fjall.Journal (Comp)

theorem decElems_flatMap (encE : α → Bytes) (decE : P α) (xs : List α)
    (he : ∀ x ∈ xs, ∀ r, decE (encE x ++ r) = some (x, r)) (rest : Bytes) :
    decElems decE xs.length (xs.flatMap encE ++ rest) = some (xs, rest) := by
  induction xs with
  | nil => rfl
  | cons x xs ih =>
    simp only [List.flatMap_cons, List.append_assoc, List.length_cons, decElems, P.bind]
    rw [he x (by simp)]
    simp only
    rw [ih (fun y hy => he y (by simp [hy]))]
    rfl

theorem policy_roundtrip (encE : α → Bytes) (decE : P α) (xs : List α) (hl : xs.length ≤ 255)
    (he : ∀ x ∈ xs, ∀ r, decE (encE x ++ r) = some (x, r)) :
    decPolicy decE (encPolicy encE xs) = some xs := by
  unfold decPolicy encPolicy
  have hn : (UInt8.ofNat (xs.length % 256)).toNat = xs.length := by
    simp [UInt8.toNat_ofNat']; omega
  simp only [P.bind, P.byte, hn]
  have := decElems_flatMap encE decE xs he []
  rw [List.append_nil] at this
  rw [this]

theorem u8_law (x : Nat) (h : x < 2^8) (r : Bytes) : decU8 (encU8 x ++ r) = some (x, r) := by
  simpa [decU8, encU8, P.nat] using rdN_leN 1 x r (by simpa using h)

theorem u32_law (x : Nat) (h : x < 2^32) (r : Bytes) : decU32 (encU32 x ++ r) = some (x, r) := by
  simpa [decU32, encU32, P.nat] using rdN_leN 4 x r (by simpa using h)

theorem bool_law (b : Bool) (r : Bytes) : decBool (encBool b ++ r) = some (b, r) := by
  cases b <;> simp [decBool, encBool, P.bind, P.byte, P.pure]

theorem comp_law (c : Comp) (r : Bytes) : decComp (encComp c ++ r) = some (c, r) := by
  cases c <;> simp [decComp, encComp, P.bind, P.byte, P.ofOption, P.pure, Comp.toByte, Comp.ofByte]

theorem filter_law (f : FilterEntry) (h : f.WF) (r : Bytes) :
    decFilter (encFilter f ++ r) = some (f, r) := by
  cases f with
  | none => simp [decFilter, encFilter, P.bind, P.byte, P.pure]
  | bitsPerKey x | falsePositiveRate x =>
    have := rdN_leN 4 x r (by simpa [FilterEntry.WF] using h)
    simp [decFilter, encFilter, P.bind, P.byte, P.pure, P.nat, this]

theorem rowNat_leN (k n : Nat) (h : n < 256 ^ k) : rowNat k (leN k n) = some n := by
  have := rdN_leN k n [] h
  rw [List.append_nil] at this
  simp [rowNat, this]

/-- a boolean option is stored as the row `[1]` or `[0]` and read back as `row == [1]`, which `simp`
    brings to this comparison of bytes -/
theorem flag_beq (b : Bool) : ((if b then (1 : UInt8) else 0) == 1) = b := by cases b <;> rfl

/-- the names of the rows that every option set has, in the order of `encodeKvs` -/
def baseNames : List String :=
  ["compaction_strategy", "data_block_compression_policy", "data_block_hash_ratio_policy",
   "data_block_restart_interval_policy", "data_block_size_policy", "expect_point_read_hits",
   "filter_block_partitioning_policy", "filter_block_pinning_policy", "filter_policy",
   "index_block_compression_policy", "index_block_partitioning_policy", "index_block_pinning_policy",
   "index_block_restart_interval_policy", "level_count", "manual_journal_persist", "max_memtable_size",
   "version"]

/-- The names of the 17 rows in front are `baseNames` by computation, so they are passed by one
    membership test in a list of literals, which is much cheaper to check than a walk past the rows
    with their values. -/
theorem lookupRow_of_not_base (o : Opts) {k : String} (h : k ∉ baseNames) :
    lookupRow (encodeKvs o) k =
      (strategyRows o.strategy ++ match o.blob with | some b => blobRows b | none => []).lookup k := by
  rw [lookupRow, encodeKvs, List.append_assoc]
  exact lookup_append_of_not_mem h

theorem decodeStrategy_encodeKvs (o : Opts) (h : o.strategy.WF) :
    decodeStrategy (lookupRow (encodeKvs o)) = some o.strategy := by
  have name : lookupRow (encodeKvs o) "compaction_strategy" = some (asciiBytes (strategyName o.strategy)) := by
    simp [lookupRow, encodeKvs]
  cases hs : o.strategy with
  | leveled l0 ts rs =>
    rw [hs] at h name
    obtain ⟨s1, s2, s3, s4⟩ := h
    simp [decodeStrategy, name, lookupRow_of_not_base, baseNames, hs, strategyRows, strategyName, lookup_cons_ne,
      rowNat_leN 1 l0 s1, rowNat_leN 8 ts s2, policy_roundtrip _ _ rs s3 fun x h r => u32_law x (s4 x h) r]
  | fifo lim ttl =>
    rw [hs] at h name
    obtain ⟨s1, s2⟩ := h
    cases ttl with
    | none =>
      simp [decodeStrategy, name, lookupRow_of_not_base, baseNames, hs, strategyRows, strategyName, asciiBytes,
        lookup_cons_ne, rowNat_leN 8 lim s1]
    | some t =>
      simp [decodeStrategy, name, lookupRow_of_not_base, baseNames, hs, strategyRows, strategyName, asciiBytes,
        lookup_cons_ne, rowNat_leN 8 lim s1, rowNat_leN 8 t (s2 t rfl)]

theorem decodeBlob_encodeKvs (o : Opts) (h : ∀ b, o.blob = some b → b.WF) :
    decodeBlob (lookupRow (encodeKvs o)) = some o.blob := by
  cases hb : o.blob with
  | none =>
    cases hs : o.strategy <;>
      simp [decodeBlob, lookupRow_of_not_base, baseNames, strategyRows, hb, hs, lookup_cons_ne]
  | some b =>
    obtain ⟨b1, b2, b3, b4⟩ := h b hb
    have g : decComp (encComp b.compression) = some (b.compression, []) := comp_law b.compression []
    cases hs : o.strategy <;>
      simp [decodeBlob, lookupRow_of_not_base, baseNames, strategyRows, blobRows, hb, hs, lookup_cons_ne, g,
        rowNat_leN 4 _ b1, rowNat_leN 8 _ b2, rowNat_leN 4 _ b3, rowNat_leN 4 _ b4]

end Fjall.Config
