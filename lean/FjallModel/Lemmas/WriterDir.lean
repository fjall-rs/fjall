/-
  The journal folder across rotations (C09): which journal files exist after a power loss.
-/
import FjallModel.Lemmas.Writer
namespace Fjall.Journal
open Fjall

structure JDb.FilesOk (db : JDb) : Prop where
  winv : db.poisoned = false → (db.w.dirty = false → db.w.buf = [])
  dir : db.dirDurable = db.created
  count : db.created = db.sealed.length + 1
  whole : ∀ p ∈ db.sealed, p.2 = p.1.length
  cfg : db.rotateSyncsFolder = true

/-- the field `winv` is `Writer.Inv` written out -/
theorem JDb.FilesOk.inv {db : JDb} (h : db.FilesOk) (hp : db.poisoned = false) : db.w.Inv :=
  h.winv hp

theorem jstep_filesOk (db : JDb) (op : JOp) (h : db.FilesOk) : (jstep db op).1.FilesOk := by
  obtain ⟨_, e⟩ | ⟨hp, hs⟩ := jstep_cases db op
  · rw [e]; exact h
  generalize jstep db op = x at hs ⊢
  cases hs with
  | failed => exact ⟨nofun, h.dir, h.count, h.whole, h.cfg⟩
  | done _ w' _ hw => exact ⟨fun _ => hw (h.inv hp), h.dir, h.count, h.whole, h.cfg⟩
  | rotated w' hq =>
    have ⟨hb, _, hs⟩ := persist_ok db.w .syncAll (h.inv hp) (congrArg (·.2) hq)
    rw [hq] at hb hs
    refine ⟨fun _ => (fun _ => hb : Writer.Inv _), ?_, ?_, ?_, h.cfg⟩
    · simp only [h.cfg, if_true]
    · simp only [h.count, List.length_append, List.length_singleton]
    · -- the file just sealed: `persist(SyncAll)` covered all of it
      exact List.forall_mem_append.mpr ⟨h.whole, List.forall_mem_singleton.mpr (hs nofun)⟩

theorem jrun_filesOk (db : JDb) (ops : List JOp) (h : db.FilesOk) : (jrun db ops).1.FilesOk := by
  induction ops generalizing db with
  | nil => exact h
  | cons o os ih => rw [jrun_cons]; exact ih _ (jstep_filesOk db o h)

theorem powerLossFiles_of_filesOk (db : JDb) (h : db.FilesOk) :
    db.powerLossFiles = db.sealed.map (·.1) ++ [db.w.os.take db.w.synced] := by
  unfold JDb.powerLossFiles
  have hlen : ((db.sealed.map fun p => p.1.take p.2) ++ [db.w.os.take db.w.synced]).length = db.dirDurable := by
    simp [h.dir, h.count]
  rw [← hlen, List.take_length]
  congr 1
  apply List.map_congr_left
  intro p hp
  rw [h.whole p hp, List.take_length]

end Fjall.Journal
