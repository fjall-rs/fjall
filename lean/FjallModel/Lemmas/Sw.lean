/-
  Single-writer transactions across threads (Tx/Sw.lean).  The invariant is stated per thread as a
  function of its phase (`PhaseOk`); a step of one thread leaves the other threads' parts alone
  (`PhaseOk.frame`, `Inv.thread`).  The last part makes "no update is lost" concrete: transactions that
  each append to one key (`appendOp`), and what a chain of them leaves there (`appends_all_there`).
-/
import FjallModel.Tx.Sw
import FjallModel.Lemmas.Ssi
namespace Fjall.Sw
open Fjall Fjall.Spec Fjall.Tx

theorem snapOf_eq_fresh (log : List LogEntry) (i : Nat) : snapOf log i = fresh i (stateTop log) := rfl

inductive Chain : List Done → List LogEntry → Prop
  | nil : Chain [] []
  | snoc (ds : List Done) (L : List LogEntry) (d : Done) (sq : Nat) :
      Chain ds L → d.before = L → Chain (ds ++ [d]) (⟨sq, d.batch⟩ :: L)

def Replays (d : Done) : Prop :=
  ∀ i, (xrun (snapOf d.before i) d.prog).2 = d.outs ∧
       (xrun (snapOf d.before i) d.prog).1.base.commitBatch = d.batch

structure Src (jobs : List (List Job)) (s : State) : Prop where
  suffix : ∀ tid, ∃ pre, (jobs[tid]?).getD [] = pre ++ (s.threads tid).todo
  fromJobs : ∀ d ∈ s.done, ∃ (tid : Nat) (j : Job), j ∈ (jobs[tid]?).getD [] ∧ d.prog = j.ops

theorem xrun_instant (t : OTx) (p : List XOp) : (xrun t p).1.instant = t.instant := by
  induction p generalizing t with
  | nil => rfl
  | cons o os ih => simp only [xrun]; rw [ih, xstep_instant]

def Progress (log : List LogEntry) (todo : List Job) (t : OTx) (rest : List XOp) (outs : List XOut) : Prop :=
  ∃ j tl pre, todo = j :: tl ∧ j.ops = pre ++ rest ∧ xrun (snapOf log t.instant) pre = (t, outs)

theorem Progress.start (log : List LogEntry) (i : Nat) (j : Job) (tl : List Job) :
    Progress log (j :: tl) (snapOf log i) j.ops [] := ⟨j, tl, [], rfl, rfl, rfl⟩

theorem Progress.step {log todo t o rest outs} (h : Progress log todo t (o :: rest) outs) :
    Progress log todo (xstep t o).1 rest (outs ++ [(xstep t o).2]) := by
  obtain ⟨j, tl, pre, h1, h2, h3⟩ := h
  refine ⟨j, tl, pre ++ [o], h1, by rw [h2, List.append_assoc]; rfl, ?_⟩
  rw [xstep_instant, xrun_snoc, h3]

theorem Progress.replays {log j tl t outs} (h : Progress log (j :: tl) t [] outs) :
    Replays ⟨j.ops, outs, log, t.base.commitBatch⟩ := by
  obtain ⟨j', tl', pre, h1, h2, h3⟩ := h
  obtain ⟨rfl, rfl⟩ := List.cons.inj h1
  rw [List.append_nil] at h2
  have h3' : xrun (fresh t.instant (stateTop log)) pre = (t, outs) := h3
  intro i
  have := xrun_instant_irrelevant (stateTop log) pre t.instant i
  rw [h3'] at this
  exact h2 ▸ this

/-- `presnap` does not occur when the snapshot is opened after the lock (`cfg.snapAfterLock`) -/
def PhaseOk (log : List LogEntry) (lock : Option Nat) (tid : Nat) (todo : List Job) : Phase → Prop
  | .idle => True
  | .presnap _ => False
  | .locked => lock = some tid
  | .running t rest outs => lock = some tid ∧ Progress log todo t rest outs
  | .finishing _ => lock = some tid
  | .reading before t rest outs => Progress before todo t rest outs ∧ ∃ newer, log = newer ++ before

theorem PhaseOk.lock_eq {log lock tid todo ph} (h : PhaseOk log lock tid todo ph) (hh : ph.holds = true) :
    lock = some tid := by
  cases ph with
  | locked | finishing => exact h
  | running => exact h.1
  | idle | presnap | reading => cases hh

theorem PhaseOk.frame {log lock tid todo ph} (h : PhaseOk log lock tid todo ph) {log' lock'}
    (hlk : lock = some tid → lock' = some tid ∧ log' = log) (hlog : ∃ newer, log' = newer ++ log) :
    PhaseOk log' lock' tid todo ph := by
  cases ph with
  | idle => trivial
  | presnap t => exact h
  | locked => exact (hlk h).1
  | running t rest outs => exact ⟨(hlk h.1).1, (hlk h.1).2 ▸ h.2⟩
  | finishing outs => exact (hlk h).1
  | reading before t rest outs =>
    obtain ⟨newer, hn⟩ := hlog
    obtain ⟨hp, n2, h2⟩ := h
    exact ⟨hp, newer ++ n2, by rw [hn, h2, List.append_assoc]⟩

structure Inv (jobs : List (List Job)) (s : State) : Prop where
  thr : ∀ tid, PhaseOk s.log s.lock tid (s.threads tid).todo (s.threads tid).phase
  doneOk : ∀ d ∈ s.done, Replays d
  roOk : ∀ d ∈ s.doneRo, (∀ i, (xrun (snapOf d.before i) d.prog).2 = d.outs) ∧
    ∃ newer, s.log = newer ++ d.before
  chain : Chain s.done s.log
  src : Src jobs s

theorem init_inv (jobs : List (List Job)) : Inv jobs (init jobs) :=
  ⟨fun _ => trivial, fun _ h => absurd h List.not_mem_nil, fun _ h => absurd h List.not_mem_nil, Chain.nil,
    fun _ => ⟨[], rfl⟩, fun _ h => absurd h List.not_mem_nil⟩

theorem setThread_same (s : State) (tid : Nat) (th : Thread) : (s.setThread tid th).threads tid = th :=
  if_pos rfl

theorem setThread_ne (s : State) {tid u : Nat} (th : Thread) (h : u ≠ tid) :
    (s.setThread tid th).threads u = s.threads u := if_neg h

theorem Inv.thread {jobs s} (h : Inv jobs s) (tid : Nat) (th' : Thread) {lock' : Option Nat}
    (hlk : lock' = s.lock ∨ s.lock = none ∨ s.lock = some tid)
    (htodo : th'.todo = (s.threads tid).todo ∨ th'.todo = (s.threads tid).todo.tail)
    (hth : PhaseOk s.log lock' tid th'.todo th'.phase) :
    Inv jobs ({ s with lock := lock' }.setThread tid th') := by
  refine ⟨fun u => ?_, h.doneOk, h.roOk, h.chain, fun u => ?_, h.src.fromJobs⟩
  · by_cases hu : u = tid
    · subst hu; rw [setThread_same]; exact hth
    · rw [setThread_ne _ _ hu]
      exact (h.thr u).frame (fun hl => ⟨hlk.elim (· ▸ hl) fun hf => absurd hl (lock_ne hf hu), rfl⟩) ⟨[], rfl⟩
  · by_cases hu : u = tid
    · subst hu; rw [setThread_same]
      rcases htodo with e | e <;> rw [e]
      · exact h.src.suffix u
      · exact suffix_tail (h.src.suffix u)
    · rw [setThread_ne _ _ hu]; exact h.src.suffix u

theorem step_inv (cfg : Cfg) (hc : cfg.snapAfterLock = true) {jobs s} (tid : Nat) (h : Inv jobs s) :
    Inv jobs (stepT cfg s tid) := by
  unfold stepT
  cases htodo : (s.threads tid).todo with
  | nil => exact h
  | cons j tl =>
  have hT := h.thr tid
  rw [htodo] at hT
  unfold stepJ
  generalize (s.threads tid).phase = ph at hT ⊢
  cases ph with
  | idle =>
    dsimp only
    rw [hc, if_pos rfl]
    by_cases hro : j.readOnly = true
    · rw [if_pos hro]
      exact h.thread tid _ (.inl rfl) (.inl rfl) ⟨htodo ▸ Progress.start .., [], rfl⟩
    · rw [if_neg hro]
      by_cases hl : s.lock.isNone = true
      · rw [if_pos hl]
        exact h.thread tid _ (.inr (.inl (Option.isNone_iff_eq_none.mp hl))) (.inl rfl) rfl
      · rw [if_neg hl]; exact h
  | presnap t => exact hT.elim
  | locked => exact h.thread tid _ (.inl rfl) (.inl rfl) ⟨hT, htodo ▸ Progress.start ..⟩
  | running t rest outs =>
    cases rest with
    | cons o rest => exact h.thread tid _ (.inl rfl) (.inl rfl) ⟨hT.1, htodo ▸ hT.2.step⟩
    | nil =>
      dsimp only
      by_cases hcm : j.commit = true
      · rw [if_pos hcm]
        by_cases hem : t.base.mem.isEmpty = true
        · rw [if_pos hem]; exact h.thread tid _ (.inl rfl) (.inl rfl) hT.1
        · rw [if_neg hem]
          -- the thread goes to `finishing`; then the log grows, and every other thread is idle or reading
          have h' := h.thread tid { s.threads tid with phase := .finishing outs } (.inl rfl) (.inl rfl) hT.1
          obtain ⟨pre, hp⟩ := h.src.suffix tid
          refine ⟨fun u => ?_, forall_mem_snoc h.doneOk hT.2.replays, fun d hd => ?_,
            Chain.snoc _ _ ⟨j.ops, outs, s.log, _⟩ _ h.chain rfl, h'.src.suffix,
            forall_mem_snoc h.src.fromJobs ⟨tid, j, by rw [hp, htodo]; simp, rfl⟩⟩
          · by_cases hu : u = tid
            · rw [hu, setThread_same]; exact hT.1
            · exact (h'.thr u).frame (fun hl => absurd hl (lock_ne (.inr hT.1) hu)) ⟨[_], rfl⟩
          · obtain ⟨h1, newer, h2⟩ := h.roOk d hd
            exact ⟨h1, _ :: newer, congrArg _ h2⟩
      · rw [if_neg hcm]; exact h.thread tid _ (.inr (.inr hT.1)) (.inr rfl) trivial
  | finishing outs => exact h.thread tid _ (.inr (.inr hT)) (.inr rfl) trivial
  | reading before t rest outs =>
    cases rest with
    | cons o rest => exact h.thread tid _ (.inl rfl) (.inl rfl) ⟨htodo ▸ hT.1.step, hT.2⟩
    | nil =>
      have h' := h.thread tid ((s.threads tid).finish outs) (.inl rfl) (.inr rfl) trivial
      exact ⟨h'.thr, h'.doneOk, forall_mem_snoc h.roOk ⟨fun i => (hT.1.replays i).1, hT.2⟩, h'.chain, h'.src.suffix,
        h'.src.fromJobs⟩

theorem run_inv (cfg : Cfg) (hc : cfg.snapAfterLock = true) {jobs s} (sched : List Nat) (h : Inv jobs s) :
    Inv jobs (run cfg s sched) :=
  List.foldlRecOn (motive := Inv jobs) sched _ h fun _ hs t _ => step_inv cfg hc t hs

theorem holders_equal {jobs s} (h : Inv jobs s) (a b : Nat)
    (ha : (s.threads a).phase.holds = true) (hb : (s.threads b).phase.holds = true) : a = b :=
  Option.some.inj (((h.thr a).lock_eq ha).symm.trans ((h.thr b).lock_eq hb))

def appendOp (ks : KsId) (k : Key) (v : Val) : XOp :=
  .updateFetch ks k (fun o => some (o.getD [] ++ v))

/-- the transaction refines the map with the new value at `k` (also when `fetch_update` finds nothing to write),
    and its commit publishes that map -/
theorem stateTop_updateFetch (L : List LogEntry) (i sq : Nat) (ks : KsId) (k : Key) (f : Option Val → Option Val) :
    (stateTop (⟨sq, (xrun (snapOf L i) [.updateFetch ks k f]).1.base.commitBatch⟩ :: L) ks).get k =
      f ((stateTop L ks).get k) := by
  have h := R_fetchUpdate (R_init (stateTop L)) ks k f
  refine (stateTop_commit (xstep_snap (snapOf L i) (.updateFetch ks k f)) h sq ks k).trans ?_
  simp [refSet, KMap.get]

theorem appends_all_there (ks : KsId) (k : Key) (ds : List Done) (L : List LogEntry) (hc : Chain ds L) :
    ∀ vs : List Val, ds.map (·.prog) = vs.map (fun v => [appendOp ks k v]) → (∀ d ∈ ds, Replays d) →
      (stateTop L ks).get k = if vs = [] then none else some vs.flatten := by
  induction hc with
  | nil =>
    intro vs hm _
    rw [List.map_eq_nil_iff.mp hm.symm]
    rfl
  | snoc ds L d sq hch hbef ih =>
    intro vs hm hr
    rw [List.map_append, List.append_eq_map_iff] at hm
    obtain ⟨l1, l2, rfl, h1, h2⟩ := hm
    obtain ⟨v, rfl, hd : _ = d.prog⟩ := List.map_eq_singleton_iff.mp h2
    -- the batch on top is that of `d`'s append run alone on `L`
    rw [← (hr d (by simp) 0).2, ← hd, hbef, appendOp, stateTop_updateFetch,
      ih l1 h1.symm fun x hx => hr x (List.mem_append_left _ hx)]
    by_cases hl : l1 = [] <;> simp [hl]

end Fjall.Sw
