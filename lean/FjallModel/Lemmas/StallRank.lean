/-
  `enabled` tests the guards of the step functions (`step_noop`); `rank` adds up what every thread still
  has to do (`wrank`, `krank`) and what the queued messages will make a worker do (`qw`), so every
  enabled step lowers it, in every configuration and state (`step_rank`); `effSteps` counts such steps
  along a schedule (`effSteps_le`).  Under the invariant some thread is enabled while a writer is
  unfinished (`progress`).  Leaf numbers: see the head of `Lemmas/Stall.lean`.
-/
import FjallModel.Lemmas.Stall
namespace Fjall.Stall

theorem stepWriter_noop {cfg : Cfg} {s : State} {i : Nat} {w : Writer} (he : wEnabled cfg s w = false) :
    stepWriter cfg s i w = s := by
  obtain ⟨todo, ph⟩ := w
  fun_cases stepWriter cfg s i _
  -- waiting leaves
  case case2 | case3 | case6 | case7 | case9 => rfl
  case case1 b tl htd hph hl => cases htd; cases hph; exact Bool.noConfusion (hl.symm.trans he)
  case case4 b tl htd hph _ _ _ | case5 b tl htd hph _ _ _ => cases htd; cases hph; cases he
  case case8 hph hs | case10 hph hs => cases hph; exact absurd (Nat.not_le.mp hs) (of_decide_eq_false he)

theorem stepWorker_noop {cfg : Cfg} {s : State} {j : Nat} {pick : Pick} {p : WkPhase}
    (he : kEnabled cfg s pick p = false) : stepWorker cfg s j pick p = s := by
  fun_cases stepWorker cfg s j pick p
  -- waiting leaves
  case case2 | case5 | case7 | case9 | case15 | case17 => rfl
  -- the others are enabled: a message is there, the lock is free, there is room, or there is no guard
  case case1 g r hq => simp [kEnabled, hq] at he
  case case3 hf _ | case4 hf _ | case6 hf => exact absurd hf (of_decide_eq_false he)
  case case8 g hl | case14 hl | case16 hl => exact Bool.noConfusion (hl.symm.trans he)
  case case10 | case11 | case12 | case13 | case18 | case19 | case20 => cases he

theorem step_noop (cfg : Cfg) (s : State) (tid : Tid) (h : enabled cfg s tid = false) : stepT cfg s tid = s :=
  stepT_cases (motive := fun e s' => e = false → s' = s) cfg s tid
    (fun _ _ _ => stepWriter_noop) (fun _ _ _ _ => stepWorker_noop) (fun _ => rfl) h

/-- remaining work of a writer, in steps: a write = lock, apply, leave the stall check, plus
    the rotation request it may queue (`8 + K` worker steps, `K = 2 · fanout` for the compactions) -/
def wrank (K : Nat) (w : Writer) : Nat :=
  match w.phase with
  | .idle => (11 + K) * w.todo.length
  | .locked => (11 + K) * w.todo.tail.length + (10 + K)
  | .stalling => (11 + K) * w.todo.tail.length + 1
  | .stallingLocked => (11 + K) * w.todo.tail.length + 1

def krank (K : Nat) : WkPhase → Nat
  | .idle => 0 | .rotWait _ => 7 + K | .rotLocked _ => 6 + K | .sendFlush => 5 + K
  | .flushWait => 3 + K | .flushLocked => 2 + K | .flushing => 1 + K | .compacting => 1

def rank (cfg : Cfg) (s : State) : Nat :=
  (s.writers.map (wrank (2 * cfg.fanout))).sum + (s.workers.map (krank (2 * cfg.fanout))).sum +
    (8 + 2 * cfg.fanout) * s.rotq.length + (4 + 2 * cfg.fanout) * s.fl + 2 * s.cp

/-- Weight of a channel holding `r` rotation requests, `f` `Flush` and `c` `Compact` messages.  A
    message weighs one step (its receipt) more than the phase its receiver enters: `krank` of
    `rotWait`, `flushWait`, `compacting` is `7 + K`, `3 + K`, `1`. -/
def qw (K r f c : Nat) : Nat := (8 + K) * r + (4 + K) * f + 2 * c

theorem qw_rot (K r f c : Nat) : qw K (r + 1) f c = qw K r f c + (8 + K) := by
  simp +arith only [qw, Nat.mul_succ]

theorem qw_fl (K r f c : Nat) : qw K r (f + 1) c = qw K r f c + (4 + K) := by
  simp +arith only [qw, Nat.mul_succ]

theorem qw_cp (K r f c d : Nat) : qw K r f (c + d) = qw K r f c + 2 * d := by
  simp +arith only [qw]

theorem rank_eq (cfg : Cfg) (s : State) :
    rank cfg s = (s.writers.map (wrank (2 * cfg.fanout))).sum + (s.workers.map (krank (2 * cfg.fanout))).sum
      + qw (2 * cfg.fanout) s.rotq.length s.fl s.cp := by
  simp only [rank, qw, Nat.add_assoc]

theorem rank_lt_of_writer {cfg : Cfg} {s s' : State} {i : Nat} {w w' : Writer} (hw : s.writers[i]? = some w)
    (hws : s'.writers = s.writers.set i w') (hwk : s'.workers = s.workers)
    (hlt : wrank (2 * cfg.fanout) w' + qw (2 * cfg.fanout) s'.rotq.length s'.fl s'.cp
      < wrank (2 * cfg.fanout) w + qw (2 * cfg.fanout) s.rotq.length s.fl s.cp) :
    rank cfg s' < rank cfg s := by
  have := sum_map_set (wrank (2 * cfg.fanout)) hw w'
  rw [rank_eq, rank_eq, hws, hwk]; omega

theorem rank_lt_of_worker {cfg : Cfg} {s s' : State} {j : Nat} {p p' : WkPhase} (hp : s.workers[j]? = some p)
    (hws : s'.writers = s.writers) (hwk : s'.workers = s.workers.set j p')
    (hlt : krank (2 * cfg.fanout) p' + qw (2 * cfg.fanout) s'.rotq.length s'.fl s'.cp
      < krank (2 * cfg.fanout) p + qw (2 * cfg.fanout) s.rotq.length s.fl s.cp) :
    rank cfg s' < rank cfg s := by
  have := sum_map_set (krank (2 * cfg.fanout)) hp p'
  rw [rank_eq, rank_eq, hws, hwk]; omega

theorem stepWriter_rank {cfg : Cfg} {s : State} {i : Nat} {w : Writer}
    (hw : s.writers[i]? = some w) (he : wEnabled cfg s w = true) :
    rank cfg (stepWriter cfg s i w) < rank cfg s := by
  obtain ⟨todo, ph⟩ := w
  fun_cases stepWriter cfg s i _
  -- waiting leaves are not enabled
  case case2 b tl htd hph hl => cases htd; cases hph; exact absurd he hl
  case case3 htd hph | case6 htd hph => cases htd; cases hph; cases he
  case case7 hph hs | case9 hph hs => cases hph; exact absurd (of_decide_eq_true he) (Nat.not_lt.mpr hs)
  -- idle: takes the lock
  case case1 b tl htd hph hl =>
    cases htd; cases hph
    exact rank_lt_of_writer hw rfl rfl (by simp +arith only [wrank, List.length_cons, List.tail_cons, Nat.mul_succ])
  -- locked: the write is done (`10 + K` falls to `1`); it may have queued a rotation request (`8 + K`)
  case case4 b tl htd hph over rotq hu | case5 b tl htd hph over rotq hu =>
    cases htd; cases hph
    refine rank_lt_of_writer hw rfl rfl ?_
    simp only [rotq]
    split <;> simp +arith only [wrank, List.tail_cons, List.length_append, List.length_singleton, qw_rot]
  -- stalling, stallingLocked: passes the check
  case case8 hph hs | case10 hph hs => cases hph; exact rank_lt_of_writer hw rfl rfl (by simp +arith only [wrank])

theorem stepWorker_rank {cfg : Cfg} {s : State} {j : Nat} {pick : Pick} {p : WkPhase}
    (hp : s.workers[j]? = some p) (he : kEnabled cfg s pick p = true) :
    rank cfg (stepWorker cfg s j pick p) < rank cfg s := by
  fun_cases stepWorker cfg s j pick p
  -- waiting leaves are not enabled
  case case2 hq => simp [kEnabled, hq] at he
  case case5 | case7 => exact absurd (of_decide_eq_true he) (by assumption)
  case case9 | case15 | case17 => exact absurd he (by assumption)
  -- idle: a message is taken, its weight against the phase entered
  case case1 g r hq =>
    exact rank_lt_of_worker hp rfl rfl (by simp +arith only [krank, hq, List.length_cons, qw_rot])
  case case3 hf _ =>
    obtain ⟨f, hf⟩ := Nat.exists_eq_add_one.mpr hf
    exact rank_lt_of_worker hp rfl rfl (by simp +arith only [krank, hf, Nat.add_sub_cancel, qw_fl])
  -- a `Flush` without task: the message goes, the worker stays idle
  case case4 hf _ =>
    obtain ⟨f, hf⟩ := Nat.exists_eq_add_one.mpr hf
    simp +arith only [rank_eq, hf, Nat.add_sub_cancel, qw_fl]
  case case6 hc =>
    obtain ⟨c, hc⟩ := Nat.exists_eq_add_one.mpr hc
    exact rank_lt_of_worker hp rfl rfl (by simp +arith only [krank, hc, Nat.add_sub_cancel, qw_cp])
  -- quiet leaves: the channel is left alone, `krank` falls
  case case8 | case10 | case12 | case13 | case16 | case18 | case20 =>
    exact rank_lt_of_worker hp rfl rfl (by simp +arith only [krank])
  -- rotLocked, sendFlush: a `Flush` is sent
  case case11 | case14 => exact rank_lt_of_worker hp rfl rfl (by simp +arith only [krank, qw_fl])
  -- flushing: at most `fanout` `Compact` messages, 2 each, against `1 + 2 · fanout`
  case case19 =>
    obtain ⟨d, hd, e⟩ := sendCompacts_eq cfg cfg.fanout { s with sealed := 0, workers := s.workers.set j .idle }
    rw [e]
    exact rank_lt_of_worker hp rfl rfl (by simp only [krank, qw_cp]; omega)

theorem step_rank (cfg : Cfg) (s : State) (tid : Tid) (he : enabled cfg s tid = true) :
    rank cfg (stepT cfg s tid) < rank cfg s :=
  stepT_cases (motive := fun e s' => e = true → rank cfg s' < rank cfg s) cfg s tid
    (fun _ _ => stepWriter_rank) (fun _ _ _ => stepWorker_rank) nofun he

def effSteps (cfg : Cfg) (s : State) : List Tid → Nat
  | [] => 0
  | t :: ts => (if enabled cfg s t then 1 else 0) + effSteps cfg (stepT cfg s t) ts

theorem effSteps_le (cfg : Cfg) (s : State) (sched : List Tid) :
    effSteps cfg s sched + rank cfg (run cfg s sched) ≤ rank cfg s := by
  induction sched generalizing s with
  | nil => exact Nat.le_of_eq (Nat.zero_add _)
  | cons t ts ih =>
    have ih := ih (stepT cfg s t)
    rw [effSteps, run, List.foldl_cons]
    cases he : enabled cfg s t with
    | true =>
      rw [if_pos rfl, Nat.add_assoc, Nat.one_add]
      exact Nat.lt_of_le_of_lt ih (step_rank cfg s t he)
    | false =>
      rw [step_noop cfg s t he] at ih ⊢
      rw [if_neg Bool.false_ne_true, Nat.zero_add]; exact ih

theorem progress (cfg : Cfg) (hc : cfg.Live) (s : State) (h : Inv s) (hwk : s.workers ≠ [])
    (hnd : s.done = false) : ∃ tid, enabled cfg s tid = true := by
  cases hj : s.jlock with
  | some y =>
    -- the holder moves
    cases y with
    | w i =>
      obtain ⟨w, hw, hh⟩ := h.held _ hj
      have ho := h.wOk i w hw
      exact ⟨.writer i, (enabled_writer hw).trans
        (wEnabled_of_todo ho (ho.busy fun e => by rw [e] at hh; cases hh) (.inr hh))⟩
    | k j =>
      obtain ⟨p, hp, hh⟩ := h.held _ hj
      exact ⟨.worker j .flush, (enabled_worker hp).trans
        (kEnabled_of_ne_idle (h.kOk j p hp) (fun e => by rw [e] at hh; cases hh) (.inr hh))⟩
  | none =>
    by_cases hs : s.sealed < cfg.limit
    · -- the stall check passes: an unfinished writer moves
      obtain ⟨w, hwm, hte⟩ := List.all_eq_false.mp hnd
      obtain ⟨i, hw⟩ := List.getElem?_of_mem hwm
      exact ⟨.writer i, (enabled_writer hw).trans
        (wEnabled_of_todo (h.wOk i w hw) (mt List.isEmpty_iff.mpr hte) (.inl ⟨hj, hs⟩))⟩
    -- writers halt: a worker is busy, or a `Flush` is queued and an idle worker can take it
    by_cases hB : ∃ p ∈ s.workers, p ≠ .idle
    · obtain ⟨p, hpm, hne⟩ := hB
      obtain ⟨j, hp⟩ := List.getElem?_of_mem hpm
      exact ⟨.worker j .flush, (enabled_worker hp).trans (kEnabled_of_ne_idle (h.kOk j p hp) hne (.inl hj))⟩
    have hidle : ∀ p ∈ s.workers, p = .idle := fun p hp => Decidable.byContradiction fun e => hB ⟨p, hp, e⟩
    have hc0 : s.workers.countP WkPhase.flushy = 0 :=
      List.countP_eq_zero.mpr fun p hp => by rw [hidle p hp]; nofun
    -- 1 ≤ limit ≤ sealed ≤ tasks + 0 ≤ fl
    have hfl : 0 < s.fl := Nat.lt_of_lt_of_le hc.2.2 <| Nat.le_trans (Nat.not_lt.mp hs) <|
      Nat.le_trans (show s.sealed ≤ s.tasks + 0 from hc0 ▸ h.sealedLe) h.tasksLe
    have h0 : 0 < s.workers.length := List.length_pos_iff.mpr hwk
    exact ⟨.worker 0 .flush, (enabled_worker (List.getElem?_eq_getElem h0)).trans
      (by rw [hidle _ (List.getElem_mem h0)]; exact decide_eq_true hfl)⟩

theorem rank_init (cfg : Cfg) (progs : List (List Bool)) (n : Nat) :
    rank cfg (init progs n) = (11 + 2 * cfg.fanout) * (progs.map List.length).sum := by
  have h1 : ∀ (K : Nat) (ps : List (List Bool)), ((ps.map fun p => ({ todo := p } : Writer)).map (wrank K)).sum
      = (11 + K) * (ps.map List.length).sum := by
    intro K ps
    induction ps with
    | nil => rfl
    | cons p r ih => simp only [List.map_cons, List.sum_cons, ih, wrank, Nat.mul_add]
  simp only [rank, init, h1, List.map_replicate, List.sum_replicate_nat, krank, List.length_nil, Nat.mul_zero,
    Nat.add_zero]

end Fjall.Stall
