/-
  A transaction against a plain map per keyspace.  Reads go through `BaseTx.view`; every write is a
  `push`, i.e. a `cons` in front of the view, and `fetch_update` (hence `update_fetch`, `take`)
  pushes exactly when the value changes.
-/
import FjallModel.Tx.Base
import FjallModel.Lemmas.Spec
namespace Fjall.Tx
open Fjall Fjall.Spec

def ownView (l : List TEntry) (base : KMap) (ks : KsId) : KMap :=
  ((l.filter fun e => e.ks = ks).map fun e => (e.key, e.toVal)) ++ base

def ownGet (l : List TEntry) (base : KMap) (ks : KsId) (k : Key) : Option Val :=
  match l.find? fun e => e.ks = ks ∧ e.key = k with
  | some e => e.toVal
  | none => base.get k

theorem ownView_get (l : List TEntry) (base : KMap) (ks : KsId) (k : Key) :
    (ownView l base ks).get k = ownGet l base ks k := by
  induction l with
  | nil => rfl
  | cons e r ih =>
    unfold ownView ownGet at *
    by_cases hks : e.ks = ks
    · by_cases hk : e.key = k
      · rw [List.filter_cons_of_pos (by simp [hks]), List.find?_cons_of_pos (by simp [hks, hk])]
        simp [KMap.get, hk]
      · rw [List.filter_cons_of_pos (by simp [hks]), List.find?_cons_of_neg (by simp [hk])]
        simp only [List.map_cons, List.cons_append, KMap.get, hk, if_false]
        exact ih
    · rw [List.filter_cons_of_neg (by simp [hks]), List.find?_cons_of_neg (by simp [hks])]
      exact ih

theorem get_eq_view (tx : BaseTx) (ks : KsId) (k : Key) : tx.get ks k = (tx.view ks).get k :=
  (ownView_get tx.mem (tx.snap ks) ks k).symm

theorem view_push_same (tx : BaseTx) (ks : KsId) (k : Key) (kind : TKind) (v : Val) :
    (tx.push ks k kind v).view ks = (k, (⟨ks, k, tx.seqno, kind, v⟩ : TEntry).toVal) :: tx.view ks := by
  simp [BaseTx.push, BaseTx.view]

theorem view_push_other (tx : BaseTx) (ks ks' : KsId) (h : ks ≠ ks') (k : Key) (kind : TKind) (v : Val) :
    (tx.push ks k kind v).view ks' = tx.view ks' := by
  simp [BaseTx.push, BaseTx.view, h]

theorem BaseTx.fetchUpdate_fst (b : BaseTx) (ks : KsId) (k : Key) (f : Option Val → Option Val) :
    (b.fetchUpdate ks k f).1 =
      if f (b.get ks k) = b.get ks k then b else
        match f (b.get ks k) with
        | some v => b.insert ks k v
        | none => b.remove ks k := by
  simp only [BaseTx.fetchUpdate]
  cases f (b.get ks k) <;> cases b.get ks k <;> simp [eq_comm]

theorem BaseTx.fetchUpdate_snd (b : BaseTx) (ks : KsId) (k : Key) (f : Option Val → Option Val) :
    (b.fetchUpdate ks k f).2 = b.get ks k := by
  simp only [BaseTx.fetchUpdate]; split <;> rfl

def R (tx : BaseTx) (m : KsId → KMap) : Prop := ∀ ks, (tx.view ks).Equiv (m ks)

theorem R.get {tx : BaseTx} {m : KsId → KMap} (h : R tx m) (ks : KsId) (k : Key) : tx.get ks k = (m ks).get k :=
  (get_eq_view tx ks k).trans (h ks k)

theorem R_init (snap : KsId → KMap) : R { snap := snap } snap := fun _ _ => rfl

/-- what `refStep` builds for every kind of write (`put`, `del` are this `cons`) -/
def refSet (m : KsId → KMap) (ks : KsId) (k : Key) (nv : Option Val) : KsId → KMap :=
  fun x => if x = ks then (k, nv) :: m ks else m x

theorem R_push {tx : BaseTx} {m : KsId → KMap} (h : R tx m) (ks : KsId) (k : Key) (kind : TKind) (v : Val) :
    R (tx.push ks k kind v) (refSet m ks k (⟨ks, k, tx.seqno, kind, v⟩ : TEntry).toVal) := by
  intro ks' k'
  by_cases hk : ks' = ks
  · subst hk
    simp only [view_push_same, refSet, if_true, KMap.get, h ks' k']
  · simp only [view_push_other _ _ _ (Ne.symm hk), refSet, hk, if_false, h ks' k']

theorem equiv_cons_same {m : KMap} {k : Key} {v : Option Val} (h : m.get k = v) : m.Equiv ((k, v) :: m) := by
  intro k'
  simp only [KMap.get]
  split
  · rename_i hk; rw [← hk, h]
  · rfl

theorem R_skip {tx : BaseTx} {m : KsId → KMap} (h : R tx m) (ks : KsId) (k : Key) :
    R tx (refSet m ks k ((m ks).get k)) := by
  intro ks'
  by_cases hk : ks' = ks
  · subst hk
    simp only [refSet, if_true]
    exact (h ks').trans (equiv_cons_same rfl)
  · simp only [refSet, hk, if_false]
    exact h ks'

theorem R_fetchUpdate {tx : BaseTx} {m : KsId → KMap} (h : R tx m) (ks : KsId) (k : Key)
    (f : Option Val → Option Val) :
    R (tx.fetchUpdate ks k f).1 (refSet m ks k (f ((m ks).get k))) := by
  rw [BaseTx.fetchUpdate_fst, h.get]
  split
  · rename_i hsame; rw [hsame]; exact R_skip h ks k
  · split
    · rename_i v hv; rw [hv]; exact R_push h ks k .value v
    · rename_i hv; rw [hv]; exact R_push h ks k .tomb []

theorem step_refines (tx : BaseTx) (m : KsId → KMap) (h : R tx m) (op : TOp) :
    (step tx op).2 = (refStep m op).2 ∧ R (step tx op).1 (refStep m op).1 := by
  -- `refStep` spells the written value out as a `match`; per case it is `refSet`
  have rmw : ∀ ks k f, R (tx.fetchUpdate ks k f).1
      (fun x => if x = ks then (match f ((m ks).get k) with | some v => (m ks).put k v | none => (m ks).del k) else m x) := by
    intro ks k f
    have := R_fetchUpdate h ks k f
    cases hf : f ((m ks).get k) <;> rw [hf] at this <;> exact this
  cases op with
  | get ks k => exact ⟨congrArg Out.val (h.get ks k), h⟩
  | contains ks k => exact ⟨congrArg (fun v : Option Val => Out.bool v.isSome) (h.get ks k), h⟩
  | sizeOf ks k => exact ⟨congrArg (fun v : Option Val => Out.size (v.map List.length)) (h.get ks k), h⟩
  | scan ks lo hi => exact ⟨congrArg Out.pairs (range_congr_on lo hi fun k _ => h ks k), h⟩
  | insert ks k v => exact ⟨rfl, R_push h ks k .value v⟩
  | remove ks k => exact ⟨rfl, R_push h ks k .tomb []⟩
  | removeWeak ks k => exact ⟨rfl, R_push h ks k .weakTomb []⟩
  | fetchUpdate ks k f =>
    exact ⟨congrArg Out.val ((BaseTx.fetchUpdate_snd ..).trans (h.get ks k)), rmw ks k f⟩
  | updateFetch ks k f => exact ⟨congrArg (fun v => Out.val (f v)) (h.get ks k), rmw ks k f⟩
  | take ks k => exact ⟨congrArg Out.val (h.get ks k), rmw ks k fun _ => none⟩

theorem run_refines (tx : BaseTx) (m : KsId → KMap) (h : R tx m) (ops : List TOp) :
    (run tx ops).2 = (refRun m ops).2 ∧ R (run tx ops).1 (refRun m ops).1 := by
  induction ops generalizing tx m with
  | nil => exact ⟨rfl, h⟩
  | cons o os ih =>
    obtain ⟨h1, h2⟩ := step_refines tx m h o
    obtain ⟨h3, h4⟩ := ih _ _ h2
    simp only [run, refRun]
    exact ⟨by rw [h1, h3], h4⟩

theorem commitItems_find (l : List TEntry) (ks : KsId) (k : Key) :
    (commitItems l).find? (fun x => x.ks = ks ∧ x.key = k) = l.find? (fun x => x.ks = ks ∧ x.key = k) := by
  induction l with
  | nil => rfl
  | cons e r ih =>
    simp only [commitItems, List.find?_cons]
    split
    · rfl
    · rename_i hne
      rw [find?_filter_of_imp _ _, ih]
      intro x hx
      simp only [decide_eq_true_eq, decide_eq_false_iff_not] at hx hne ⊢
      exact fun hxe => hne ⟨hxe.1 ▸ hx.1, hxe.2 ▸ hx.2⟩

theorem ownView_commitItems (l : List TEntry) (base : KMap) (ks : KsId) :
    (ownView (commitItems l) base ks).Equiv (ownView l base ks) := by
  intro k
  rw [ownView_get, ownView_get, ownGet, commitItems_find]
  rfl

theorem commitItems_sublist (l : List TEntry) : (commitItems l).Sublist l := by
  induction l with
  | nil => exact .slnil
  | cons e r ih => exact (List.filter_sublist.trans ih).cons_cons e

theorem commitItems_nodup (l : List TEntry) :
    ((commitItems l).map fun e => (e.ks, e.key)).Nodup := by
  induction l with
  | nil => exact .nil
  | cons e r ih =>
    refine List.nodup_cons.mpr ⟨fun hmem => ?_, ih.sublist (List.filter_sublist.map _)⟩
    obtain ⟨x, hx, hxe⟩ := List.mem_map.mp hmem
    have := (List.mem_filter.mp hx).2
    rw [Prod.mk.injEq] at hxe
    simp [hxe.1, hxe.2] at this

end Fjall.Tx
