/-
  A compaction filter rewrites value entries in place: key and seqno stay (`SameVersion`), and
  those alone decide lookup order, distinctness and which version of a key is the newest.  Along
  maintenance a key shows its original value or the filtered one (`Filtered`, composed by
  `Filtered.trans`); which keyspaces carry a filter is kept by every create / delete / reopen
  (`astep_assigned`).
-/
import FjallModel.Mvcc.Filter
import FjallModel.Lemmas.Mvcc
namespace Fjall.Mvcc
open Fjall Fjall.Spec

structure SameVersion (g : VEntry → VEntry) : Prop where
  key : ∀ e, (g e).key = e.key
  seqno : ∀ e, (g e).seqno = e.seqno

variable {g : VEntry → VEntry} (hg : SameVersion g)
include hg

theorem newestIn_map (inst : Option Nat) (k : Key) (r : Run) :
    newestIn inst k (r.map g) = (newestIn inst k r).map g := by
  induction r using snoc_induction with
  | nil => rfl
  | snoc r x ih =>
    rw [List.map_append, List.map_singleton, newestIn_snoc, newestIn_snoc, ih, hg.key,
      show visible inst (g x) = visible inst x by simp only [visible, hg.seqno]]
    split
    · cases newestIn inst k r with
      | none => rfl
      | some a => simp only [Option.map_some, newer, hg.seqno]; split <;> rfl
    · rfl

theorem cross_map_left {A B : Run} : Cross (A.map g) B ↔ Cross A B := by
  simp only [Cross, List.forall_mem_map, hg.key, hg.seqno]

theorem cross_map_right {A B : Run} : Cross A (B.map g) ↔ Cross A B := by
  simp only [Cross, List.forall_mem_map, hg.key, hg.seqno]

theorem ordered_map {cs : List Run} : Ordered (cs.map (·.map g)) ↔ Ordered cs := by
  induction cs with
  | nil => rfl
  | cons c cs ih =>
    rw [List.map_cons, ordered_cons, ordered_cons, ih, ← List.map_flatten, cross_map_left hg,
      cross_map_right hg]

theorem map_block {t t' : Tree} {Pre S Q : List Run} (ht : t.comps = Pre ++ (S ++ Q))
    (ht' : t'.comps = Pre ++ (S.map (·.map g) ++ Q)) (h : Inv t) :
    Inv t' ∧ ∀ k, newestIn none k t'.comps.flatten = newestIn none k t.comps.flatten ∨
      ∃ e, newestIn none k t.comps.flatten = some e ∧ newestIn none k t'.comps.flatten = some (g e) := by
  obtain ⟨ho, hd⟩ := h
  rw [ht] at ho hd
  -- unfolded over the blocks, both sides are the same statement about keys and seqnos
  have ho' : Ordered (Pre ++ (S.map (·.map g) ++ Q)) := by
    simpa only [ordered_append, ordered_map hg, List.flatten_append, ← List.map_flatten,
      cross_append_right, cross_map_left hg, cross_map_right hg] using ho
  have hd' : Distinct (Pre ++ (S.map (·.map g) ++ Q)).flatten := by
    simpa only [Distinct, List.flatten_append, ← List.map_flatten, List.pairwise_append,
      List.pairwise_map, List.mem_append, or_imp, forall_and, List.forall_mem_map, hg.key, hg.seqno]
      using hd
  refine ⟨⟨ht' ▸ ho', ht' ▸ hd'⟩, fun k => ?_⟩
  rw [ht, ht', newestIn_blocks ho', newestIn_blocks ho, ← List.map_flatten,
    newestIn_map hg]
  cases newestIn none k Pre.flatten with
  | some _ => exact .inl rfl
  | none =>
    cases newestIn none k S.flatten with
    | none => exact .inl rfl
    | some e => exact .inr ⟨e, rfl, rfl⟩

omit hg

theorem applyVerdict_key (f : Filter) (e : VEntry) : (applyVerdict f e).key = e.key := by
  fun_cases applyVerdict f e <;> rfl

theorem applyVerdict_seqno (f : Filter) (e : VEntry) : (applyVerdict f e).seqno = e.seqno := by
  fun_cases applyVerdict f e <;> rfl

theorem applyVerdict_same (f : Filter) : SameVersion (applyVerdict f) :=
  ⟨applyVerdict_key f, applyVerdict_seqno f⟩

theorem applyVerdict_toVal (f : Filter) (e : VEntry) :
    (applyVerdict f e).toVal = filtered f e.key e.toVal := by
  fun_cases applyVerdict f e <;> simp [VEntry.toVal, filtered, *]

theorem mapSeg_comps (t : Tree) (f : Filter) (i n : Nat) : (t.mapSeg f i n).comps =
    (t.active :: (t.sealed ++ t.tables.take i)) ++
      (((t.tables.drop i).take n).map (·.map (applyVerdict f)) ++ t.tables.drop (i + n)) := by
  simp [Tree.mapSeg, Tree.comps]

theorem filtered_idem (f : Filter) (k : Key) (v : Option Val) :
    filtered f k (filtered f k v) = filtered f k v := by
  unfold filtered
  cases v with
  | none => rfl
  | some x => cases f k <;> rfl

theorem filtered_keep (f : Filter) (k : Key) (v : Option Val) (h : f k = .keep) : filtered f k v = v := by
  unfold filtered; cases v <;> simp [h]

structure Filtered (f : Filter) (t t' : Tree) : Prop where
  inv : Inv t'
  abs : ∀ k, t'.absGet none k = t.absGet none k ∨
    t'.absGet none k = filtered f k (t.absGet none k)

theorem Filtered.refl {f : Filter} {t : Tree} (h : Inv t) : Filtered f t t := ⟨h, fun _ => .inl rfl⟩

theorem Maintained.filtered {f : Filter} {t t' : Tree} (h : Maintained t t') : Filtered f t t' :=
  ⟨h.inv, fun k => .inl (h.abs k)⟩

/-- composes because filtering twice is filtering once -/
theorem Filtered.trans {f : Filter} {t t₁ t₂ : Tree} (h₁ : Filtered f t t₁) (h₂ : Filtered f t₁ t₂) :
    Filtered f t t₂ := by
  refine ⟨h₂.inv, fun k => ?_⟩
  rcases h₁.abs k with h | h
  · rw [← h]; exact h₂.abs k
  · refine .inr ((h₂.abs k).elim (fun h' => h'.trans h) fun h' => ?_)
    rw [h', h, filtered_idem]

theorem mapSeg_filtered (t : Tree) (f : Filter) (i n : Nat) (h : Inv t) :
    Filtered f t (t.mapSeg f i n) := by
  obtain ⟨hi, hn⟩ := map_block (applyVerdict_same f) (comps_split t i n) (mapSeg_comps t f i n) h
  refine ⟨hi, fun k => ?_⟩
  rw [Tree.absGet, Tree.absGet]
  rcases hn k with hn | ⟨e, he, hn⟩
  · exact .inl (by rw [hn])
  · right
    rw [hn, he, Option.bind_some, Option.bind_some, applyVerdict_toVal, (newestIn_mem he).2.1]

theorem compactF_filtered (t : Tree) (f : Filter) (i n w : Nat) (h : Inv t) :
    Filtered f t (t.compactF f i n w) := by
  unfold Tree.compactF
  split
  · exact .refl h
  · have h₁ := mapSeg_filtered t f i n h
    exact h₁.trans (compact_maintained _ i n w h₁.inv).filtered

theorem mstep_filtered (f : Filter) (t : Tree) (m : Maint) (h : Inv t) :
    Filtered f t (mstep f t m) := by
  cases m with
  | rotate => exact (rotate_maintained t h).filtered
  | flush w => exact (flush_maintained t w h).filtered
  | compact i n w => exact compactF_filtered t f i n w h

theorem mrun_filtered (f : Filter) (t : Tree) (ms : List Maint) (h : Inv t) :
    Filtered f t (mrun f t ms) :=
  List.foldlRecOn (motive := Filtered f t) ms _ (.refl h) fun t' ht' m _ =>
    ht'.trans (mstep_filtered f t' m ht'.inv)

theorem astep_assigned (a : String → Bool) (s : List KsF) (o : AOp)
    (hs : ∀ k ∈ s, k.hasFilter = a k.name) : ∀ k ∈ astep a s o, k.hasFilter = a k.name := by
  intro k hk
  cases o with
  | create n =>
    rw [astep] at hk
    split at hk
    · exact hs k hk
    · rcases List.mem_append.mp hk with hk | hk
      · exact hs k hk
      · cases List.mem_singleton.mp hk; rfl
  | delete n => exact hs k (List.mem_filter.mp hk).1
  | reopen =>
    obtain ⟨k0, _, rfl⟩ := List.mem_map.mp hk
    rfl

theorem assigned_from (a : String → Bool) (ops : List AOp) (s : List KsF)
    (hs : ∀ k ∈ s, k.hasFilter = a k.name) : ∀ k ∈ ops.foldl (astep a) s, k.hasFilter = a k.name :=
  List.foldlRecOn (motive := fun s => ∀ k ∈ s, k.hasFilter = a k.name) ops _ hs fun s hs o _ =>
    astep_assigned a s o hs

end Fjall.Mvcc
