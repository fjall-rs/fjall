/-
  One keyspace against its journal records.  A clear-free operation list acts on a key through its
  newest operation on it, and `lastOn` turns `++` into `Option.or` (associative, idempotent).  A
  replay can only append to the active memtable or wipe the keyspace.  `Cov` says how journal,
  tables and memtables overlap; every operation of the model keeps it, and under it recovery
  reproduces the content (`replayKs_recovers`).
-/
import FjallModel.Db.Log
import FjallModel.Lemmas.List
namespace Fjall.Db
open Fjall Fjall.Spec

def LOp.key? : LOp → Option Key
  | .put k _ => some k
  | .del k => some k
  | .clear => none

def LOp.isClear : LOp → Bool
  | .clear => true
  | _ => false

theorem LOp.isClear_iff (op : LOp) : op.isClear = true ↔ op = .clear := by cases op <;> simp [LOp.isClear]

def LOp.isDel : LOp → Bool
  | .del _ => true
  | _ => false

def opsOf (rs : List Rec) : List LOp := rs.map (·.op)

@[simp] theorem opsOf_append (a b : List Rec) : opsOf (a ++ b) = opsOf a ++ opsOf b := by simp [opsOf]
@[simp] theorem opsOf_nil : opsOf [] = [] := rfl
@[simp] theorem opsOf_cons (a : Rec) (b : List Rec) : opsOf (a :: b) = a.op :: opsOf b := rfl

def LOp.on (k : Key) : LOp → Option (Option Val)
  | .put k' v => if k' = k then some (some v) else none
  | .del k' => if k' = k then some none else none
  | .clear => none

theorem lastOn_cons (k : Key) (op : LOp) (r : List LOp) : lastOn k (op :: r) = (lastOn k r).or (op.on k) := by
  cases h : lastOn k r <;> cases op <;> simp [lastOn, h, LOp.on]

theorem lastOn_append (k : Key) (a b : List LOp) : lastOn k (a ++ b) = (lastOn k b).or (lastOn k a) := by
  induction a with
  | nil => simp [lastOn]
  | cons op r ih => rw [List.cons_append, lastOn_cons, ih, lastOn_cons, Option.or_assoc]

theorem applyOp_get (m : KMap) (op : LOp) (hc : op.isClear = false) (k : Key) :
    (applyOp m op).get k = (op.on k).getD (m.get k) := by
  cases op with
  | put k' v => simp only [applyOp, KMap.get_put, LOp.on]; split <;> rfl
  | del k' => simp only [applyOp, KMap.get_del, LOp.on]; split <;> rfl
  | clear => cases hc

theorem applyAll_get (m : KMap) (ops : List LOp) (hc : ∀ op ∈ ops, op.isClear = false) (k : Key) :
    (applyAll m ops).get k = (lastOn k ops).getD (m.get k) := by
  induction ops generalizing m with
  | nil => rfl
  | cons op r ih =>
    rw [lastOn_cons, Option.getD_or, ← applyOp_get m op (hc op (by simp)) k]
    exact ih (applyOp m op) (fun o ho => hc o (by simp [ho]))

theorem applyAll_congr (m : KMap) {a b : List LOp} (ha : ∀ op ∈ a, op.isClear = false)
    (hb : ∀ op ∈ b, op.isClear = false) (h : ∀ k, lastOn k a = lastOn k b) :
    (applyAll m a).Equiv (applyAll m b) := fun k => by
  rw [applyAll_get m a ha, applyAll_get m b hb, h]

theorem applyAll_cons (m : KMap) (op : LOp) (r : List LOp) : applyAll m (op :: r) = applyAll (applyOp m op) r := rfl

theorem applyAll_append (m : KMap) (a b : List LOp) : applyAll m (a ++ b) = applyAll (applyAll m a) b := by
  simp [applyAll]

theorem applyAll_after_clear (m : KMap) (a b : List LOp) :
    applyAll m (a ++ [LOp.clear] ++ b) = applyAll [] b := by
  simp [applyAll, applyOp]

theorem LOp.on_eq_put (x : Key) (v : Val) (op : LOp) : op.on x = some (some v) ↔ op = .put x v := by
  cases op with
  | put k w => simp only [LOp.on]; split <;> simp_all
  | del k => simp only [LOp.on]; split <;> simp
  | clear => simp [LOp.on]

theorem noLive_iff (L : List LOp) : noLive L = true ↔ ∀ x v, lastOn x L ≠ some (some v) := by
  induction L with
  | nil => simp [noLive, lastOn]
  | cons op r ih =>
    simp only [noLive, Bool.and_eq_true, ih, lastOn_cons, ne_eq, Option.or_eq_some_iff, not_or, not_and,
      LOp.on_eq_put, forall_and]
    refine and_congr_right fun _ => ?_
    cases op with
    | put k w =>
      refine ⟨fun h x v hn he => ?_, fun h => ?_⟩
      · cases he; simp [hn] at h
      · cases hl : lastOn k r with
        | some e => simp [hl]
        | none => exact absurd rfl (h k w hl)
    | del k => simp
    | clear => simp

theorem noLive_suffix (a b : List LOp) (h : noLive (a ++ b) = true) : noLive b = true := by
  rw [noLive_iff] at h ⊢
  intro x v hx
  exact h x v (by rw [lastOn_append, hx]; rfl)

theorem opsOf_noClear (L : List Rec) (h : ∀ r ∈ L, r.op.isClear = false) : ∀ op ∈ opsOf L, op.isClear = false := by
  intro op hop
  obtain ⟨r, hr, rfl⟩ := List.mem_map.mp hop
  exact h r hr

/-- a newest delete is kept by `q` and still hides what is behind it; a key that no operation
    touches is touched by none of a sublist either -/
theorem lastOn_filter (L : List Rec) (q : Rec → Bool) (x : Key)
    (hq : ∀ r ∈ L, r.op.isDel = true → q r = true) (h : ∀ v, lastOn x (opsOf L) ≠ some (some v)) :
    lastOn x (opsOf (L.filter q)) = lastOn x (opsOf L) := by
  induction L with
  | nil => rfl
  | cons a r ih =>
    rw [opsOf_cons, lastOn_cons] at h ⊢
    have ih' := ih (fun r' hr' => hq r' (List.mem_cons_of_mem _ hr')) fun v hv => h v (by rw [hv]; rfl)
    by_cases hqa : q a = true
    · rw [List.filter_cons_of_pos hqa, opsOf_cons, lastOn_cons, ih']
    · rw [List.filter_cons_of_neg hqa, ih']
      -- `a` is not a delete, and a put of `x` only under a newer operation on `x`
      cases hl : lastOn x (opsOf r) with
      | some e => rfl
      | none =>
        rw [hl] at h
        cases hop : a.op with
        | put k' v' =>
          simp only [hop, Option.none_or, LOp.on] at h ⊢
          split
          · rename_i hk; exact absurd (by simp [hk]) (h v')
          · rfl
        | del k' => exact absurd (hq a (by simp) (by simp [hop, LOp.isDel])) hqa
        | clear => rfl

theorem applyAll_filter_dead (m : KMap) (P N : List Rec) (q : Rec → Bool)
    (hq : ∀ r ∈ P, r.op.isDel = true → q r = true) (hP : noLive (opsOf P) = true)
    (hcP : ∀ r ∈ P, r.op.isClear = false) (hcN : ∀ r ∈ N, r.op.isClear = false) :
    (applyAll m (opsOf (P.filter q ++ N))).Equiv (applyAll m (opsOf (P ++ N))) :=
  applyAll_congr m
    (opsOf_noClear _ fun r hr => (List.mem_append.mp hr).elim (fun hr => hcP r (List.mem_filter.mp hr).1) (hcN r))
    (opsOf_noClear _ fun r hr => (List.mem_append.mp hr).elim (hcP r) (hcN r)) fun x => by
    rw [opsOf_append, opsOf_append, lastOn_append, lastOn_append, lastOn_filter P q x hq ((noLive_iff _).mp hP x)]

/-- on both sides the newest operation on a key is the one of the filtered list, if it has one
    (`lastOn_filter`, from right to left), and `Option.or` is idempotent -/
theorem lastOn_append_filter_suffix (L : List Rec) (q : Rec → Bool) (V W : List Rec) (x : Key)
    (hVW : L.filter q = V ++ W)
    (hq : ∀ r ∈ L, r.op.isDel = true → q r = true) (h : noLive (opsOf L) = true) :
    lastOn x (opsOf (L ++ W)) = lastOn x (opsOf L) := by
  rw [opsOf_append, lastOn_append, ← lastOn_filter L q x hq ((noLive_iff _).mp h x), hVW, opsOf_append,
    lastOn_append, ← Option.or_assoc, Option.or_self]

theorem lastOn_refilter (L : List Rec) (q : Rec → Bool) (x : Key)
    (hq : ∀ r ∈ L, r.op.isDel = true → q r = true) (h : noLive (opsOf L) = true) :
    lastOn x (opsOf (L ++ L.filter q)) = lastOn x (opsOf L) :=
  lastOn_append_filter_suffix L q [] _ x rfl hq h

def replayKs (k : KsL) (recs : List Rec) : KsL := recs.foldl (fun k r => stepKs r k) k

theorem replayRec_eq_map (kss : List KsL) (r : Rec) : replayRec kss r = kss.map (stepKs r) := rfl

theorem foldl_replayRec (kss : List KsL) (recs : List Rec) :
    recs.foldl replayRec kss = kss.map fun k => replayKs k recs := by
  induction recs generalizing kss with
  | nil => simp [replayKs]
  | cons r rs ih =>
    simp only [List.foldl_cons, replayRec_eq_map, ih, List.map_map]
    rfl

theorem replayKs_append (k : KsL) (a b : List Rec) : replayKs k (a ++ b) = replayKs (replayKs k a) b := by
  simp [replayKs]

theorem replayKs_cons (k : KsL) (r : Rec) (rs : List Rec) : replayKs k (r :: rs) = replayKs (stepKs r k) rs := rfl

theorem stepKs_other (r : Rec) (k : KsL) (h : r.ks ≠ k.id) : stepKs r k = k := by
  simp [stepKs, Ne.symm h]

theorem stepKs_clear (r : Rec) (k : KsL) (hr : r.ks = k.id) (hc : r.op = .clear) :
    stepKs r k = { k with tables := [], sealedMem := [], mem := [], persisted := none } := by
  simp [stepKs, hr, applyRec, hc]

theorem stepKs_noClear (r : Rec) (k : KsL) (hr : r.ks = k.id) (hc : r.op.isClear = false) :
    stepKs r k = { k with mem := k.mem ++ [r] } := by
  simp only [stepKs, hr, if_true, applyRec]
  cases hop : r.op with
  | clear => rw [hop] at hc; cases hc
  | _ => rfl

theorem stepKs_mine (r : Rec) (k : KsL) (hr : r.ks = k.id) :
    r.op.isClear = false ∧ stepKs r k = { k with mem := k.mem ++ [r] } ∨
    r.op = .clear ∧ stepKs r k = { k with tables := [], sealedMem := [], mem := [], persisted := none } := by
  cases hc : r.op.isClear with
  | false => exact .inl ⟨rfl, stepKs_noClear r k hr hc⟩
  | true => exact .inr ⟨(LOp.isClear_iff _).mp hc, stepKs_clear r k hr ((LOp.isClear_iff _).mp hc)⟩

theorem stepKs_cases (r : Rec) (k : KsL) :
    stepKs r k = k ∨ stepKs r k = { k with mem := k.mem ++ [r] } ∨
    stepKs r k = { k with tables := [], sealedMem := [], mem := [], persisted := none } := by
  by_cases hr : r.ks = k.id
  · exact .inr ((stepKs_mine r k hr).imp (·.2) (·.2))
  · exact .inl (stepKs_other r k hr)

/-- every "replay leaves this field alone" fact is read off these two forms -/
theorem replayKs_cases (k : KsL) (R : List Rec) : ∃ R', (∀ r ∈ R', r ∈ R) ∧
    (replayKs k R = { k with mem := k.mem ++ R' } ∨
     replayKs k R = { k with tables := [], sealedMem := [], mem := R', persisted := none }) := by
  induction R generalizing k with
  | nil => exact ⟨[], by simp, .inl (by simp [replayKs])⟩
  | cons r rs ih =>
    obtain ⟨R', hsub, h⟩ := ih (stepKs r k)
    have hsub' : ∀ x ∈ R', x ∈ r :: rs := fun x hx => List.mem_cons_of_mem _ (hsub x hx)
    rw [replayKs_cons]
    rcases h with h | h
    · rcases stepKs_cases r k with e | e | e <;> rw [e] at h ⊢
      · exact ⟨R', hsub', .inl h⟩
      · exact ⟨r :: R', fun x hx => (List.mem_cons.mp hx).elim (· ▸ by simp) (hsub' x), .inl (by simpa using h)⟩
      · exact ⟨R', hsub', .inr (by simpa using h)⟩
    · -- wiped later: whatever `r` did is gone
      refine ⟨R', hsub', .inr ?_⟩
      rcases stepKs_cases r k with e | e | e <;> rw [e] at h ⊢ <;> exact h

theorem replayKs_id (k : KsL) (recs : List Rec) : (replayKs k recs).id = k.id := by
  obtain ⟨_, _, h | h⟩ := replayKs_cases k recs <;> rw [h]

theorem stepKs_id (r : Rec) (k : KsL) : (stepKs r k).id = k.id := replayKs_id k [r]

theorem replayKs_name (k : KsL) (recs : List Rec) : (replayKs k recs).name = k.name := by
  obtain ⟨_, _, h | h⟩ := replayKs_cases k recs <;> rw [h]

theorem replayKs_tables_sub (k : KsL) (R : List Rec) : ∀ t ∈ (replayKs k R).tables, t ∈ k.tables := by
  obtain ⟨_, _, e | e⟩ := replayKs_cases k R <;> rw [e]
  · exact fun _ h => h
  · exact fun _ h => nomatch h

theorem replayKs_sealedMem_sub (k : KsL) (R : List Rec) : ∀ x ∈ (replayKs k R).sealedMem, x ∈ k.sealedMem := by
  obtain ⟨_, _, e | e⟩ := replayKs_cases k R <;> rw [e]
  · exact fun _ h => h
  · exact fun _ h => nomatch h

theorem replayKs_mem_sub (k : KsL) (R : List Rec) : ∀ x ∈ (replayKs k R).mem, x ∈ k.mem ∨ x ∈ R := by
  obtain ⟨R', hsub, e | e⟩ := replayKs_cases k R <;> rw [e]
  · exact fun x hx => (List.mem_append.mp hx).imp_right (hsub x)
  · exact fun x hx => .inr (hsub x hx)

theorem replayKs_memory_sub (k : KsL) (R : List Rec) :
    ∀ x ∈ (replayKs k R).sealedMem ++ (replayKs k R).mem, x ∈ k.sealedMem ++ k.mem ∨ x ∈ R := fun x hx =>
  (List.mem_append.mp hx).elim (fun hx => .inl (List.mem_append_left _ (replayKs_sealedMem_sub k R x hx)))
    fun hx => (replayKs_mem_sub k R x hx).imp_left (List.mem_append_right _)

theorem replayKs_persisted (k : KsL) (R : List Rec) :
    (replayKs k R).persisted = k.persisted ∨ (replayKs k R).persisted = none := by
  obtain ⟨_, _, e | e⟩ := replayKs_cases k R <;> rw [e]
  · exact .inl rfl
  · exact .inr rfl

theorem replayKs_filter (k : KsL) (recs : List Rec) :
    replayKs k recs = replayKs k (recs.filter fun r => r.ks = k.id) := by
  induction recs generalizing k with
  | nil => rfl
  | cons r rs ih =>
    by_cases hr : r.ks = k.id
    · rw [List.filter_cons_of_pos (by simpa using hr), replayKs_cons, replayKs_cons, ih]
      rw [stepKs_id]
    · rw [List.filter_cons_of_neg (by simpa using hr), replayKs_cons, stepKs_other r k hr, ih]

theorem replayKs_noClear (k : KsL) (R : List Rec) (hks : ∀ r ∈ R, r.ks = k.id)
    (hc : ∀ r ∈ R, r.op.isClear = false) : replayKs k R = { k with mem := k.mem ++ R } := by
  induction R generalizing k with
  | nil => simp [replayKs]
  | cons r rs ih =>
    rw [replayKs_cons, stepKs_noClear r k (hks r (by simp)) (hc r (by simp)),
      ih { k with mem := k.mem ++ [r] } (fun r' h' => hks r' (by simp [h'])) (fun r' h' => hc r' (by simp [h']))]
    simp

theorem replayKs_snoc_clear (k : KsL) (pre : List Rec) (c : Rec) (hks : c.ks = k.id) (hc : c.op = .clear) :
    replayKs k (pre ++ [c]) = { k with tables := [], sealedMem := [], mem := [], persisted := none } := by
  have h := stepKs_clear c (replayKs k pre) (by rw [replayKs_id, hks]) hc
  rw [replayKs_append]
  show stepKs c (replayKs k pre) = _
  obtain ⟨_, _, e | e⟩ := replayKs_cases k pre <;> rw [e] at h ⊢ <;> exact h

theorem replayKs_after_clear (k : KsL) (pre M : List Rec) (c : Rec) (hks : c.ks = k.id) (hc : c.op = .clear)
    (hM : ∀ r ∈ M, r.ks = k.id) (hnc : ∀ r ∈ M, r.op.isClear = false) :
    replayKs k (pre ++ [c] ++ M) = { k with tables := [], sealedMem := [], mem := M, persisted := none } := by
  rw [replayKs_append, replayKs_snoc_clear k pre c hks hc,
    replayKs_noClear { k with tables := [], sealedMem := [], mem := [], persisted := none } M hM hnc]
  rfl

theorem abs_eq (k : KsL) : k.abs = applyAll [] (opsOf (k.tables ++ k.sealedMem ++ k.mem)) := rfl

theorem abs_repartition {k k' : KsL} (ht : k'.tables = k.tables)
    (hm : k'.sealedMem ++ k'.mem = k.sealedMem ++ k.mem) : k'.abs = k.abs := by
  rw [abs_eq, abs_eq, List.append_assoc, List.append_assoc, ht, hm]

theorem replayKs_abs (k : KsL) (recs : List Rec) :
    (replayKs k recs).abs = applyAll k.abs (opsOf (recs.filter fun r => r.ks = k.id)) := by
  induction recs generalizing k with
  | nil => rfl
  | cons r rs ih =>
    rw [replayKs_cons, ih, stepKs_id]
    by_cases hr : r.ks = k.id
    · rw [List.filter_cons_of_pos (by simpa using hr), opsOf_cons, applyAll_cons]
      congr 1
      rcases stepKs_mine r k hr with ⟨_, e⟩ | ⟨hop, e⟩ <;> rw [e]
      · rw [abs_eq, abs_eq]
        show applyAll [] (opsOf (k.tables ++ k.sealedMem ++ (k.mem ++ [r]))) = _
        rw [← List.append_assoc, opsOf_append, applyAll_append]; rfl
      · rw [hop]; rfl
    · rw [List.filter_cons_of_neg (by simpa using hr), stepKs_other r k hr]

def SeqSorted (L : List Rec) : Prop := L.Pairwise fun a b => a.seqno ≤ b.seqno

theorem above_iff (p : Option Nat) (r : Rec) : above p r = true ↔ ∀ m, p = some m → m < r.seqno := by
  cases p <;> simp [above]

theorem above_mono (p : Option Nat) (a b : Rec) (h : a.seqno ≤ b.seqno) (ha : above p a = true) : above p b = true :=
  (above_iff p b).mpr fun m hm => Nat.lt_of_lt_of_le ((above_iff p a).mp ha m hm) h

theorem above_last {L : List Rec} {c : Rec} {p : Option Nat} (h : SeqSorted (L ++ [c]))
    (hne : (L ++ [c]).filter (above p) ≠ []) : above p c = true := by
  obtain ⟨a, ha⟩ := List.exists_mem_of_ne_nil _ hne
  obtain ⟨ha, hp⟩ := List.mem_filter.mp ha
  refine above_mono p a c ?_ hp
  exact forall_mem_snoc (fun a ha => (List.pairwise_append.mp h).2.2 a ha c (List.mem_singleton_self c))
    (Nat.le_refl _) a ha

theorem optMax_none (p : Option Nat) : optMax p none = p := by cases p <;> rfl

theorem above_optMax (p q : Option Nat) (r : Rec) : above (optMax p q) r = (above p r && above q r) := by
  cases p <;> cases q <;> simp only [optMax, above, Bool.true_and, Bool.and_true, Nat.max_lt, Bool.decide_and]

theorem above_maxStep (acc : Option Nat) (a r : Rec) :
    above (maxStep acc a) r = (above acc r && decide (a.seqno < r.seqno)) := by
  cases acc <;> simp only [maxStep, above, Bool.true_and, Nat.max_lt, Bool.decide_and]

theorem above_foldl_maxStep (L : List Rec) (acc : Option Nat) (r : Rec) :
    above (L.foldl maxStep acc) r = (above acc r && L.all fun s => s.seqno < r.seqno) := by
  induction L generalizing acc with
  | nil => simp
  | cons a l ih => rw [List.foldl_cons, ih, above_maxStep, List.all_cons, Bool.and_assoc]

theorem above_maxSeqno (L : List Rec) (r : Rec) : above (maxSeqno L) r = L.all fun s => s.seqno < r.seqno := by
  rw [maxSeqno, above_foldl_maxStep]; rfl

theorem above_eq_false (p : Option Nat) (r : Rec) : above p r = false ↔ ∃ m, p = some m ∧ r.seqno ≤ m := by
  cases p <;> simp [above]

theorem maxSeqno_ge (L : List Rec) (r : Rec) (h : r ∈ L) : ∃ m, maxSeqno L = some m ∧ r.seqno ≤ m := by
  rw [← above_eq_false, above_maxSeqno, List.all_eq_false]
  exact ⟨r, h, by simp⟩

theorem sorted_split_above (L : List Rec) (p : Option Nat) (h : SeqSorted L) :
    L = L.filter (fun r => !above p r) ++ L.filter (above p) := by
  induction L with
  | nil => rfl
  | cons a r ih =>
    have ⟨h1, h2⟩ := List.pairwise_cons.mp h
    cases ha : above p a with
    | true =>
      have hall : ∀ b ∈ a :: r, above p b = true :=
        List.forall_mem_cons.mpr ⟨ha, fun b hb => above_mono p a b (h1 b hb) ha⟩
      rw [List.filter_eq_self.mpr hall, List.filter_eq_nil_iff.mpr fun b hb => by simp [hall b hb]]
      rfl
    | false =>
      rw [List.filter_cons_of_pos (by simp [ha]), List.filter_cons_of_neg (by simp [ha]), List.cons_append, ← ih h2]

theorem filter_above_none (L : List Rec) (p : Option Nat) (h : ∀ r ∈ L, above p r = false) : L.filter (above p) = [] :=
  List.filter_eq_nil_iff.mpr fun r hr => by simp [h r hr]

theorem phys_raise (T : List Rec) (p p' : Option Nat) (hs : SeqSorted T)
    (hle : ∀ r, above p' r = true → above p r = true)
    (h : noLive (opsOf (T.filter (above p))) = true) : noLive (opsOf (T.filter (above p'))) = true := by
  have hsp := sorted_split_above (T.filter (above p)) p' (hs.filter _)
  have e : (T.filter (above p)).filter (above p') = T.filter (above p') := by
    rw [List.filter_filter]
    apply List.filter_congr
    intro r _
    cases h1 : above p' r with
    | false => simp
    | true => simp [hle r h1]
  rw [e] at hsp
  rw [hsp, opsOf_append] at h
  exact noLive_suffix _ _ h

/-- the part of `Cov` about the tables alone; `phys` is `KsL.physOk`, kept by flush and ingestion
    (`TabOk.append`) and assumed of the environment where `persisted` is lowered (`DOp.WF`) -/
structure TabOk (k : KsL) : Prop where
  noClear : ∀ r ∈ k.tables, r.op.isClear = false
  ingPut : ∀ r ∈ k.tables, r.ing = true → r.op.isDel = false
  sorted : SeqSorted k.tables
  /-- `persisted` does not exceed what the tables hold: whatever is newer than all of them is above it -/
  persLe : ∀ r, (∀ t ∈ k.tables, t.seqno < r.seqno) → above k.persisted r = true
  phys : k.physOk = true

theorem physOk_nil (id : KsId) (nm : String) (sm m : List Rec) (p : Option Nat) :
    ({ id := id, name := nm, tables := [], sealedMem := sm, mem := m, persisted := p } : KsL).physOk = true := rfl

theorem TabOk.nil (k : KsL) (ht : k.tables = []) (hp : k.persisted = none) : TabOk k := by
  refine ⟨by simp [ht], by simp [ht], by simp [ht, SeqSorted], by simp [hp, above], ?_⟩
  simp [KsL.physOk, ht, noLive]

/-- new table records `X`; the new `persisted` is the old one raised over the records `W` counted for
    it, which include `X` and are all in the new tables -/
theorem TabOk.append {k : KsL} (h : TabOk k) (X W : List Rec) (k' : KsL) (ht : k'.tables = k.tables ++ X)
    (sorted : SeqSorted X) (newer : ∀ t ∈ k.tables, ∀ x ∈ X, t.seqno < x.seqno)
    (noClear : ∀ x ∈ X, x.op.isClear = false) (ingPut : ∀ x ∈ X, x.ing = true → x.op.isDel = false)
    (threshold : ∀ r, above k'.persisted r = true ↔ above k.persisted r = true ∧ ∀ w ∈ W, w.seqno < r.seqno)
    (counted : ∀ x ∈ X, x ∈ W) (held : ∀ w ∈ W, w ∈ k.tables ∨ w ∈ X) : TabOk k' where
  noClear := by rw [ht]; intro r hr; exact (List.mem_append.mp hr).elim (h.noClear r) (noClear r)
  ingPut := by rw [ht]; intro r hr; exact (List.mem_append.mp hr).elim (h.ingPut r) (ingPut r)
  sorted := by
    rw [ht]; exact List.pairwise_append.mpr ⟨h.sorted, sorted, fun t ht x hx => Nat.le_of_lt (newer t ht x hx)⟩
  persLe := by
    rw [ht]
    exact fun r hr => (threshold r).mpr ⟨h.persLe r fun t ht => hr t (List.mem_append_left _ ht),
      fun w hw => hr w (List.mem_append.mpr (held w hw))⟩
  phys := by
    have covers : ∀ x ∈ X, above k'.persisted x = false := fun x hx =>
      Bool.eq_false_iff.mpr fun hx' => Nat.lt_irrefl _ (((threshold x).mp hx').2 x (counted x hx))
    rw [KsL.physOk, ht, List.filter_append, filter_above_none X _ covers, List.append_nil]
    exact phys_raise _ _ _ h.sorted (fun r hr => ((threshold r).mp hr).1) h.phys

theorem TabOk.of_eq {k k' : KsL} (h : TabOk k) (ht : k'.tables = k.tables) (hp : k'.persisted = k.persisted) :
    TabOk k' := by
  refine ⟨ht ▸ h.noClear, ht ▸ h.ingPut, ht ▸ h.sorted, ht ▸ hp ▸ h.persLe, ?_⟩
  rw [KsL.physOk, ht, hp]; exact h.phys

/-- `rk` = the records of this keyspace in the journal files that still exist.  After the last
    `clear` (if any) they are: journaled records the tables reflect (`F ++ Y`), then what only the
    memtables hold (`N`); the memtables may also hold `Y`, a tail of the tables' part that an earlier
    recovery replayed although it was flushed.  `Z` = journaled records the tables reflect whose
    journal files were already evicted.  `A` = what the journals still hold from before the last
    `clear`, that `clear` included; it is there only while nothing after it was evicted (`Z = []`). -/
structure Shape (k : KsL) (rk A Z F Y N : List Rec) : Prop where
  journal : rk = A ++ (F ++ Y ++ N)
  tables : k.tables.filter (fun r => !r.ing) = Z ++ (F ++ Y)
  memory : k.sealedMem ++ k.mem = Y ++ N
  newer : ∀ t ∈ k.tables, ∀ m ∈ N, t.seqno < m.seqno
  clear : A = [] ∨ (Z = [] ∧ ∃ A' c, A = A' ++ [c] ∧ c.op = .clear ∧ ∀ t ∈ k.tables, c.seqno ≤ t.seqno)

/-- the keyspace `k` is covered by its surviving journal records `rk`: replaying those above
    `persisted` on top of the tables gives its content back (`replayKs_recovers`) -/
structure Cov (k : KsL) (rk : List Rec) : Prop where
  tab : TabOk k
  journalNotIng : ∀ r ∈ rk, r.ing = false
  journalSorted : SeqSorted rk
  sealedLt : ∀ s ∈ k.sealedMem, ∀ m ∈ k.mem, s.seqno < m.seqno
  memAbove : ∀ m ∈ k.sealedMem ++ k.mem, above k.persisted m = true
  memNoClear : ∀ m ∈ k.sealedMem ++ k.mem, m.op.isClear = false
  shape : ∃ A Z F Y N, Shape k rk A Z F Y N

variable {k : KsL} {rk A Z F Y N : List Rec}

theorem Shape.mem_tables (s : Shape k rk A Z F Y N) : ∀ r ∈ F ++ Y, r ∈ k.tables := fun _ hr =>
  (List.mem_filter.mp (s.tables ▸ List.mem_append_right Z hr : _ ∈ k.tables.filter _)).1

theorem Shape.sortedA (s : Shape k rk A Z F Y N) (h : SeqSorted rk) : SeqSorted A :=
  (List.pairwise_append.mp (s.journal ▸ h)).1

theorem Shape.sortedF (s : Shape k rk A Z F Y N) (h : SeqSorted rk) : SeqSorted F :=
  (List.pairwise_append.mp (List.pairwise_append.mp (List.pairwise_append.mp (s.journal ▸ h)).2.1).1).1

theorem Shape.sortedN (s : Shape k rk A Z F Y N) (h : SeqSorted rk) : SeqSorted N :=
  (List.pairwise_append.mp (List.pairwise_append.mp (s.journal ▸ h)).2.1).2.1

theorem Shape.le_of_mem_A (s : Shape k rk A Z F Y N) (h : SeqSorted rk) :
    ∀ a ∈ A, ∀ r ∈ F ++ Y ++ N, a.seqno ≤ r.seqno :=
  (List.pairwise_append.mp (s.journal ▸ h)).2.2

theorem Shape.clear_append (s : Shape k rk A Z F Y N) (X : List Rec) (hX : ∀ a ∈ A, ∀ x ∈ X, a.seqno ≤ x.seqno) :
    A = [] ∨ (Z = [] ∧ ∃ A' c, A = A' ++ [c] ∧ c.op = .clear ∧ ∀ t ∈ k.tables ++ X, c.seqno ≤ t.seqno) :=
  s.clear.imp_right fun ⟨hZ, A', c, hA, hc, hct⟩ =>
    ⟨hZ, A', c, hA, hc, fun t ht => (List.mem_append.mp ht).elim (hct t) (hX c (hA ▸ by simp) t)⟩

theorem Cov.mem_sub (h : Cov k rk) : ∀ x ∈ k.sealedMem ++ k.mem, x ∈ rk := by
  obtain ⟨A, Z, F, Y, N, s⟩ := h.shape
  intro x hx
  rw [s.memory] at hx; rw [s.journal]
  simp only [List.mem_append] at hx ⊢
  exact hx.elim (fun h => .inr (.inl (.inr h))) (fun h => .inr (.inr h))

theorem TabOk.not_ing_of_isDel (h : TabOk k) (L : List Rec) (hL : ∀ r ∈ L, r ∈ k.tables) :
    ∀ r ∈ L, r.op.isDel = true → (!r.ing) = true := by
  intro r hr hd
  cases hi : r.ing with
  | false => rfl
  | true => rw [h.ingPut r (hL r hr) hi] at hd; cases hd

/-- The stale tail `Y` is invisible.  It repeats a tail of the journaled table records above
    `persisted`, but ingested records may stand between a record and its repetition, so "last writer
    wins" is not enough: what makes it true is `physOk` (no key's newest table record above
    `persisted` is a put), together with ingested records never being deletes. -/
theorem Cov.abs_drop_stale (h : Cov k rk) (s : Shape k rk A Z F Y N) :
    k.abs.Equiv (applyAll [] (opsOf (k.tables ++ N))) := by
  have hN : ∀ r ∈ N, r.op.isClear = false := fun r hr => h.memNoClear r (s.memory ▸ List.mem_append_right Y hr)
  rw [abs_eq, List.append_assoc, s.memory]
  refine applyAll_congr []
    (opsOf_noClear _ fun r hr => (List.mem_append.mp hr).elim (h.tab.noClear r) (s.memory ▸ h.memNoClear r))
    (opsOf_noClear _ fun r hr => (List.mem_append.mp hr).elim (h.tab.noClear r) (hN r)) fun x => ?_
  have hY : (k.tables.filter (above k.persisted)).filter (fun r => !r.ing) =
      (Z ++ F).filter (above k.persisted) ++ Y := by
    rw [filter_comm, s.tables, ← List.append_assoc,
      List.filter_append, List.filter_eq_self.mpr fun r hr => h.memAbove r (s.memory ▸ List.mem_append_left N hr)]
  have hD := lastOn_append_filter_suffix _ _ _ Y x hY
    (h.tab.not_ing_of_isDel _ fun r hr => (List.mem_filter.mp hr).1) h.tab.phys
  have hTY : lastOn x (opsOf (k.tables ++ Y)) = lastOn x (opsOf k.tables) := by
    rw [sorted_split_above k.tables k.persisted h.tab.sorted, List.append_assoc, opsOf_append, lastOn_append, hD,
      ← lastOn_append, ← opsOf_append]
  rw [← List.append_assoc, opsOf_append, lastOn_append, hTY, ← lastOn_append, ← opsOf_append]

theorem cov_wiped (id : KsId) (nm : String) (hrk : rk = A ++ N) (hjr : ∀ r ∈ rk, r.ing = false) (hsj : SeqSorted rk)
    (hnc : ∀ m ∈ N, m.op.isClear = false) (hA : A = [] ∨ ∃ A' c, A = A' ++ [c] ∧ c.op = .clear) :
    Cov { id := id, name := nm, mem := N } rk :=
  have hS : Shape { id := id, name := nm, mem := N } rk A [] [] [] N :=
    { journal := hrk
      tables := rfl
      memory := rfl
      newer := fun _ h => nomatch h
      clear := hA.imp_right fun ⟨A', c, h1, h2⟩ => ⟨rfl, A', c, h1, h2, fun _ h => nomatch h⟩ }
  { tab := TabOk.nil _ rfl rfl
    journalNotIng := hjr
    journalSorted := hsj
    sealedLt := fun _ h => nomatch h
    memAbove := fun _ _ => rfl
    memNoClear := hnc
    shape := ⟨A, [], [], [], N, hS⟩ }

/-- recovery of one keyspace: tables only, then the surviving records above `persisted`.  The first
    conjunct is what makes reopens compose. -/
theorem replayKs_recovers (hks : ∀ r ∈ rk, r.ks = k.id) (h : Cov k rk) :
    Cov (replayKs { k with sealedMem := [], mem := [] } (rk.filter (above k.persisted))) rk ∧
    (replayKs { k with sealedMem := [], mem := [] } (rk.filter (above k.persisted))).abs.Equiv k.abs := by
  obtain ⟨A, Z, F, Y, N, s⟩ := h.shape
  have hYN : ∀ r ∈ Y ++ N, above k.persisted r = true := s.memory ▸ h.memAbove
  have hmine : ∀ r ∈ F ++ Y ++ N, r.ks = k.id := fun r hr => hks r (s.journal ▸ List.mem_append_right A hr)
  have hnc : ∀ r ∈ F ++ Y ++ N, r.op.isClear = false := fun r hr =>
    (List.mem_append.mp hr).elim (fun hr => h.tab.noClear r (s.mem_tables r hr))
      (fun hr => h.memNoClear r (s.memory ▸ List.mem_append_right Y hr))
  have hfilt : rk.filter (above k.persisted) =
      A.filter (above k.persisted) ++ (F.filter (above k.persisted) ++ Y ++ N) := by
    rw [s.journal, List.filter_append, List.append_assoc F, List.filter_append, List.filter_eq_self.mpr hYN,
      List.append_assoc]
  by_cases hA : A.filter (above k.persisted) = []
  · -- nothing from before the last clear is replayed: the tables stay, and the part of `F` above `persisted`
    -- is in memory again, where it joins the stale tail; content by `abs_drop_stale` on both states (same `N`)
    have hFs := sorted_split_above F k.persisted (s.sortedF h.journalSorted)
    have hsubF : ∀ r ∈ F.filter (above k.persisted) ++ Y ++ N, r ∈ F ++ Y ++ N := fun _ hr =>
      ((List.filter_sublist.append_right Y).append_right N).subset hr
    rw [hfilt, hA, List.nil_append, replayKs_noClear { k with sealedMem := [], mem := [] } _
      (fun r hr => hmine r (hsubF r hr)) (fun r hr => hnc r (hsubF r hr))]
    have s' : Shape { k with sealedMem := [], mem := F.filter (above k.persisted) ++ Y ++ N } rk A Z
        (F.filter fun r => !above k.persisted r) (F.filter (above k.persisted) ++ Y) N :=
      { journal := by rw [← List.append_assoc _ _ Y, ← hFs]; exact s.journal
        tables := by rw [← List.append_assoc _ _ Y, ← hFs]; exact s.tables
        memory := by simp
        newer := s.newer
        clear := s.clear }
    have hcov : Cov { k with sealedMem := [], mem := F.filter (above k.persisted) ++ Y ++ N } rk :=
      { h with
        tab := h.tab.of_eq rfl rfl
        sealedLt := by simp
        memAbove := fun r hr => by
          rw [List.nil_append, List.append_assoc] at hr
          exact (List.mem_append.mp hr).elim (fun hr => (List.mem_filter.mp hr).2) (hYN r)
        memNoClear := by simpa using fun r hr => hnc r (hsubF r hr)
        shape := ⟨_, _, _, _, _, s'⟩ }
    exact ⟨hcov, (hcov.abs_drop_stale s').trans (h.abs_drop_stale s).symm⟩
  · -- some record of `A` is replayed, so its newest, the clear, is: every table record is above `persisted`,
    -- the tables are wiped, and memory holds what they held but for ingested records, which are no deletes
    obtain ⟨rfl, A', c, rfl, hc, hct⟩ := s.clear.resolve_left fun hnil => hA (by rw [hnil]; rfl)
    have hab : above k.persisted c = true := above_last (s.sortedA h.journalSorted) hA
    have hTall : ∀ t ∈ k.tables, above k.persisted t = true := fun t ht => above_mono _ c t (hct t ht) hab
    have hFall : F.filter (above k.persisted) = F :=
      List.filter_eq_self.mpr fun r hr => hTall r (s.mem_tables r (List.mem_append_left Y hr))
    rw [hfilt, hFall, List.filter_append, List.filter_cons_of_pos hab, List.filter_nil,
      replayKs_after_clear { k with sealedMem := [], mem := [] } _ _ c (hks c (s.journal ▸ by simp)) hc hmine hnc]
    refine ⟨cov_wiped (A := A' ++ [c]) (N := F ++ Y ++ N) _ _ s.journal h.journalNotIng h.journalSorted hnc
      (.inr ⟨A', c, rfl, hc⟩), ?_⟩
    have hphys : noLive (opsOf k.tables) = true := by
      have := h.tab.phys
      rwa [KsL.physOk, List.filter_eq_self.mpr hTall] at this
    have hN : ∀ r ∈ N, r.op.isClear = false := fun r hr => hnc r (List.mem_append_right _ hr)
    refine .trans ?_ (h.abs_drop_stale s).symm
    show (applyAll [] (opsOf (F ++ Y ++ N))).Equiv _
    rw [← show _ = F ++ Y from s.tables]
    exact applyAll_filter_dead [] k.tables N _ (h.tab.not_ing_of_isDel _ fun _ hr => hr) hphys h.tab.noClear hN

theorem cov_fresh (id : KsId) (nm : String) : Cov { id := id, name := nm } [] :=
  cov_wiped (A := []) (N := []) id nm rfl (fun _ h => nomatch h) .nil (fun _ h => nomatch h) (.inl rfl)

theorem cov_repartition {k' : KsL} (h : Cov k rk) (ht : k'.tables = k.tables)
    (hp : k'.persisted = k.persisted) (hm : k'.sealedMem ++ k'.mem = k.sealedMem ++ k.mem)
    (hlt : ∀ x ∈ k'.sealedMem, ∀ y ∈ k'.mem, x.seqno < y.seqno) : Cov k' rk :=
  let ⟨A, Z, F, Y, N, s⟩ := h.shape
  have hS : Shape k' rk A Z F Y N :=
    { journal := s.journal
      tables := ht ▸ s.tables
      memory := hm ▸ s.memory
      newer := ht ▸ s.newer
      clear := ht ▸ s.clear }
  { h with
    tab := h.tab.of_eq ht hp
    sealedLt := hlt
    memAbove := hm ▸ hp ▸ h.memAbove
    memNoClear := hm ▸ h.memNoClear
    shape := ⟨A, Z, F, Y, N, hS⟩ }

theorem sealMem_eq (k : KsL) : sealMem k = { k with sealedMem := k.sealedMem ++ k.mem, mem := [] } := by
  unfold sealMem; split
  · rename_i he
    have := List.isEmpty_iff.mp he
    cases k; simp_all
  · rfl

theorem cov_rotate (h : Cov k rk) : Cov (sealMem k) rk :=
  sealMem_eq k ▸ cov_repartition h rfl rfl (List.append_nil _) (by simp)

theorem cov_step (r : Rec) (hr : r.ks = k.id) (hing : r.ing = false)
    (hle : ∀ x ∈ rk, x.seqno ≤ r.seqno) (hltS : ∀ x ∈ k.sealedMem, x.seqno < r.seqno)
    (hltT : ∀ t ∈ k.tables, t.seqno < r.seqno) (h : Cov k rk) : Cov (stepKs r k) (rk ++ [r]) := by
  have hjr : ∀ x ∈ rk ++ [r], x.ing = false := forall_mem_snoc h.journalNotIng hing
  have hsj : SeqSorted (rk ++ [r]) := pairwise_snoc h.journalSorted hle
  obtain ⟨A, Z, F, Y, N, s⟩ := h.shape
  rcases stepKs_mine r k hr with ⟨hc, e⟩ | ⟨hc, e⟩ <;> rw [e]
  · have hmem : k.sealedMem ++ (k.mem ++ [r]) = (k.sealedMem ++ k.mem) ++ [r] := (List.append_assoc ..).symm
    have hS : Shape { k with mem := k.mem ++ [r] } (rk ++ [r]) A Z F Y (N ++ [r]) :=
      { journal := by rw [s.journal]; simp
        tables := s.tables
        memory := hmem.trans (by rw [s.memory, List.append_assoc])
        newer := fun t ht => forall_mem_snoc (s.newer t ht) (hltT t ht)
        clear := s.clear }
    exact
      { tab := h.tab.of_eq rfl rfl
        journalNotIng := hjr
        journalSorted := hsj
        sealedLt := fun x hx => forall_mem_snoc (h.sealedLt x hx) (hltS x hx)
        memAbove := hmem ▸ forall_mem_snoc h.memAbove (h.tab.persLe r hltT)
        memNoClear := hmem ▸ forall_mem_snoc h.memNoClear hc
        shape := ⟨_, _, _, _, _, hS⟩ }
  · -- a clear: everything the journal holds so far is history
    exact cov_wiped (A := rk ++ [r]) (N := []) _ _ (List.append_nil _).symm hjr hsj (fun _ h => nomatch h)
      (.inr ⟨rk, r, rfl, hc⟩)

theorem cov_batch (recs : List Rec) (s : Nat)
    (hs : ∀ r ∈ recs, r.seqno = s ∧ r.ing = false)
    (hle : ∀ x ∈ rk, x.seqno ≤ s) (hltS : ∀ x ∈ k.sealedMem, x.seqno < s) (hltT : ∀ t ∈ k.tables, t.seqno < s)
    (h : Cov k rk) : Cov (replayKs k recs) (rk ++ recs.filter fun r => r.ks = k.id) := by
  induction recs generalizing k rk with
  | nil => simpa [replayKs] using h
  | cons r rs ih =>
    rw [replayKs_cons]
    obtain ⟨hr1, hr2⟩ := hs r (by simp)
    have hs' : ∀ r ∈ rs, r.seqno = s ∧ r.ing = false := fun r' h' => hs r' (by simp [h'])
    by_cases hr : r.ks = k.id
    · have := ih (k := stepKs r k) (rk := rk ++ [r]) hs'
        (forall_mem_snoc hle (Nat.le_of_eq hr1))
        (fun x hx => hltS x (replayKs_sealedMem_sub k [r] x hx)) (fun t ht => hltT t (replayKs_tables_sub k [r] t ht))
        (cov_step r hr hr2 (hr1 ▸ hle) (hr1 ▸ hltS) (hr1 ▸ hltT) h)
      rw [stepKs_id] at this
      rwa [List.filter_cons_of_pos (by simpa using hr), List.append_cons]
    · rw [stepKs_other r k hr, List.filter_cons_of_neg (by simpa using hr)]
      exact ih hs' hle hltS hltT h

theorem cov_flushSealed (h : Cov k rk) : Cov k.flushSealed rk := by
  obtain ⟨A, Z, F, Y, N, s⟩ := h.shape
  -- the sealed memtables: a stale part `S1`, then a part `S2` that becomes a new table
  obtain ⟨S1, S2, Y', N', hS, rfl, rfl, hM, hor⟩ := append_cut s.memory
  have hstale : ∀ r ∈ S1, r ∈ k.tables := fun r hr => s.mem_tables r (by simp [hr])
  have hnew : ∀ t ∈ k.tables, ∀ x ∈ S2, t.seqno < x.seqno := fun t ht x hx => s.newer t ht x (by simp [hx])
  have hS2 : ∀ x ∈ S2, x ∈ k.sealedMem := fun x hx => hS ▸ List.mem_append_right _ hx
  have hT : k.flushSealed.tables = k.tables ++ S2 := by
    show k.tables ++ k.sealedMem.filter (fun r => decide (r ∉ k.tables)) = _
    rw [hS, List.filter_append, List.filter_eq_nil_iff.mpr (by simpa using hstale), List.filter_eq_self.mpr]
    · rfl
    · intro x hx; simpa using fun ht => Nat.lt_irrefl _ (hnew x ht x hx)
  have hq : ∀ r, above k.flushSealed.persisted r = true ↔
      above k.persisted r = true ∧ ∀ x ∈ k.sealedMem, x.seqno < r.seqno := fun r => by
    show above (optMax k.persisted (maxSeqno k.sealedMem)) r = true ↔ _
    simp only [above_optMax, above_maxSeqno, Bool.and_eq_true, List.all_eq_true, decide_eq_true_eq]
  have hjr : ∀ x ∈ S2, x.ing = false := fun x hx => h.journalNotIng x (h.mem_sub x (List.mem_append_left _ (hS2 x hx)))
  have htab : TabOk k.flushSealed :=
    h.tab.append S2 k.sealedMem _ hT
      (sorted := (List.pairwise_append.mp (s.sortedN h.journalSorted)).1)
      (newer := hnew)
      (noClear := fun x hx => h.memNoClear x (List.mem_append_left _ (hS2 x hx)))
      (ingPut := fun x hx hi => by rw [hjr x hx] at hi; cases hi)
      (threshold := hq)
      (counted := hS2)
      (held := fun x hx => (List.mem_append.mp (hS ▸ hx)).imp_left (hstale x))
  have hcomm : Y' ++ S2 = S2 ++ Y' := by rcases hor with rfl | rfl <;> simp
  -- `S1` is no longer in memory, `S2` is in the tables: both join the flushed part `F`
  have hShape : Shape k.flushSealed rk A Z (F ++ S1 ++ S2) Y' N' :=
    { journal := by
        rw [s.journal]; simp only [List.append_assoc, List.append_cancel_left_eq]
        rw [← List.append_assoc Y', hcomm, List.append_assoc]
      tables := by
        rw [hT, List.filter_append, s.tables, List.filter_eq_self.mpr (by simpa using hjr)]
        simp only [List.append_assoc, List.append_cancel_left_eq]; exact hcomm
      memory := hM
      newer := fun t ht m hm => by
        rcases List.mem_append.mp (hT ▸ ht) with ht | ht
        · exact s.newer t ht m (by simp [hm])
        · exact h.sealedLt t (hS2 t ht) m (hM ▸ List.mem_append_right _ hm)
      clear := hT ▸ s.clear_append S2 fun a ha x hx => s.le_of_mem_A h.journalSorted a ha x (by simp [hx]) }
  exact
    { h with
      tab := htab
      sealedLt := by simp [KsL.flushSealed]
      memAbove := fun m hm =>
        (hq m).mpr ⟨h.memAbove m (List.mem_append_right _ hm), fun x hx => h.sealedLt x hx m hm⟩
      memNoClear := fun m hm => h.memNoClear m (List.mem_append_right _ hm)
      shape := ⟨_, _, _, _, _, hShape⟩ }

theorem cov_setPersisted (q : Option Nat) (h : Cov k rk)
    (hq : ∀ r, above k.persisted r = true → above q r = true)
    (hphys : ({ k with persisted := q } : KsL).physOk = true) : Cov { k with persisted := q } rk :=
  let ⟨A, Z, F, Y, N, s⟩ := h.shape
  { h with
    tab := { h.tab with persLe := fun r hr => hq r (h.tab.persLe r hr), phys := hphys }
    memAbove := fun m hm => hq m (h.memAbove m hm)
    shape := ⟨A, Z, F, Y, N, { s with }⟩ }

theorem lowerPersisted_eq (k : KsL) (v : Option Nat) :
    k.lowerPersisted v = { k with persisted := (k.lowerPersisted v).persisted } := by
  unfold KsL.lowerPersisted; split
  · split <;> rfl
  · rfl
  · rfl

theorem above_lowerPersisted (k : KsL) (v : Option Nat) (r : Rec) (h : above k.persisted r = true) :
    above (k.lowerPersisted v).persisted r = true := by
  unfold KsL.lowerPersisted; split
  · rename_i p x hp
    split
    · exact (above_iff _ r).mpr fun m hm => by cases hm; have := (above_iff _ r).mp h p hp; omega
    · exact h
  · rfl
  · exact h

theorem cov_lower (v : Option Nat) (h : Cov k rk)
    (hphys : (k.lowerPersisted v).physOk = true) : Cov (k.lowerPersisted v) rk := by
  rw [lowerPersisted_eq] at hphys ⊢
  exact cov_setPersisted _ h (above_lowerPersisted k v) hphys

theorem cov_ingest (recs : List Rec) (g : Nat) (h : Cov k rk)
    (hsm : k.sealedMem = []) (hm : k.mem = []) (hne : recs ≠ [])
    (hrecs : ∀ r ∈ recs, r.seqno = g ∧ r.ing = true ∧ r.op.isDel = false ∧ r.op.isClear = false)
    (hg : ∀ t ∈ k.tables, t.seqno < g) (hgj : ∀ r ∈ rk, r.seqno ≤ g) :
    Cov { k with tables := k.tables ++ recs, persisted := optMax k.persisted (some g) } rk := by
  obtain ⟨A, Z, F, Y, N, s⟩ := h.shape
  obtain ⟨rfl, rfl⟩ : Y = [] ∧ N = [] := by simpa [hsm, hm, eq_comm] using s.memory
  obtain ⟨r0, hr0⟩ := List.exists_mem_of_ne_nil recs hne
  have hq : ∀ r, above (optMax k.persisted (some g)) r = true ↔
      above k.persisted r = true ∧ ∀ w ∈ recs, w.seqno < r.seqno := fun r => by
    rw [above_optMax, Bool.and_eq_true]
    exact and_congr_right fun _ => ⟨fun hlt w hw => (hrecs w hw).1 ▸ of_decide_eq_true hlt,
      fun hw => decide_eq_true ((hrecs r0 hr0).1 ▸ hw r0 hr0)⟩
  -- ingested records are not journaled: the journal's view of the tables stays as it is
  have hS : Shape { k with tables := k.tables ++ recs, persisted := optMax k.persisted (some g) } rk A Z F [] [] :=
    { s with
      tables := by
        show (k.tables ++ recs).filter _ = _
        rw [List.filter_append, s.tables, List.filter_eq_nil_iff.mpr fun r hr => by simp [(hrecs r hr).2.1],
          List.append_nil]
      newer := by simp
      clear := s.clear_append recs fun a ha x hx =>
        (hrecs x hx).1 ▸ hgj a (s.journal ▸ List.mem_append_left _ ha) }
  exact
    { h with
      tab :=
        h.tab.append recs recs _ rfl
          (sorted := List.pairwise_of_forall_mem_list fun a ha b hb => by
            rw [(hrecs a ha).1, (hrecs b hb).1]; exact Nat.le_refl _)
          (newer := fun t ht x hx => (hrecs x hx).1 ▸ hg t ht)
          (noClear := fun x hx => (hrecs x hx).2.2.2)
          (ingPut := fun x hx _ => (hrecs x hx).2.2.1)
          (threshold := hq)
          (counted := fun _ hx => hx)
          (held := fun _ => .inr)
      memAbove := by simp [hsm, hm]
      shape := ⟨_, _, _, _, _, hS⟩ }

/-- `D` = the keyspace's records in the evicted journals.  Only that none of them is still in memory
    is asked; that each is reflected in the tables or precedes a `clear` follows from `Cov`. -/
theorem cov_evict {D rk' : List Rec} (h : Cov k rk) (hsplit : rk = D ++ rk')
    (hD : ∀ d ∈ D, d ∉ k.sealedMem ++ k.mem) : Cov k rk' := by
  obtain ⟨A, Z, F, Y, N, s⟩ := h.shape
  -- the cut lies inside `A ++ F`: it cannot reach into what is in memory
  obtain ⟨D0, C, D1, M, hAF, rfl, rfl, hYN, -⟩ :=
    append_cut (show (A ++ F) ++ (Y ++ N) = D ++ rk' by rw [← hsplit, s.journal]; simp)
  obtain rfl : D1 = [] := List.eq_nil_iff_forall_not_mem.mpr fun d hd =>
    hD d (by simp [hd]) (s.memory ▸ hYN ▸ by simp [hd])
  rw [List.nil_append] at hYN; subst hYN
  -- all of `A` and a part `F0` of `F` are gone, or only a part of `A`
  obtain ⟨A0, A1, F0, F1, rfl, hD0, rfl, rfl, hor⟩ := append_cut hAF
  -- what is gone of `F` stays reflected in the tables: it moves to `Z`
  have hS : Shape k (A1 ++ F1 ++ (Y ++ N)) A1 (Z ++ F0) F1 Y N :=
    { journal := by simp
      tables := by rw [s.tables]; simp
      memory := s.memory
      newer := s.newer
      clear := by
        by_cases hA1 : A1 = []
        · exact .inl hA1
        · obtain rfl : F0 = [] := hor.resolve_left hA1
          rcases s.clear with hA | ⟨rfl, A', c, hA, hc, hct⟩
          · exact absurd (List.append_eq_nil_iff.mp hA).2 hA1
          · obtain ⟨A'', rfl⟩ := suffix_snoc hA hA1
            exact .inr ⟨rfl, A'', c, rfl, hc, hct⟩ }
  exact
    { h with
      journalNotIng := fun r hr => h.journalNotIng r (hsplit ▸ List.mem_append_right _ hr)
      journalSorted := (List.pairwise_append.mp (hsplit ▸ h.journalSorted)).2.1
      shape := ⟨_, _, _, _, _, hS⟩ }

end Fjall.Db
