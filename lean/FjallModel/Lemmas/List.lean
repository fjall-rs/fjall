/-
  Facts about lists that mention nothing of the model; and `lock_ne`, about an `Option` that names
  the holder of a lock.
-/
namespace Fjall

theorem snoc_induction {α : Type} {P : List α → Prop} (nil : P [])
    (snoc : ∀ l a, P l → P (l ++ [a])) (l : List α) : P l := by
  rw [← List.reverse_reverse l]
  induction l.reverse with
  | nil => exact nil
  | cons a r ih => rw [List.reverse_cons]; exact snoc _ _ ih

theorem forall_mem_snoc {α : Type} {P : α → Prop} {l : List α} {a : α} (h1 : ∀ x ∈ l, P x) (h2 : P a) :
    ∀ x ∈ l ++ [a], P x :=
  List.forall_mem_append.mpr ⟨h1, List.forall_mem_singleton.mpr h2⟩

theorem pairwise_snoc {α : Type} {R : α → α → Prop} {l : List α} {a : α} (h : l.Pairwise R) (ha : ∀ x ∈ l, R x a) :
    (l ++ [a]).Pairwise R :=
  List.pairwise_append.mpr ⟨h, List.pairwise_singleton _ _, fun x hx _ hb => List.mem_singleton.mp hb ▸ ha x hx⟩

theorem append_cut {α : Type} {a b c d : List α} (h : a ++ b = c ++ d) :
    ∃ a₁ a₂ c' d', a = a₁ ++ a₂ ∧ c = a₁ ++ c' ∧ d = a₂ ++ d' ∧ b = c' ++ d' ∧ (a₂ = [] ∨ c' = []) := by
  rcases List.append_eq_append_iff.mp h with ⟨c', hc, hb⟩ | ⟨a₂, ha, hd⟩
  · exact ⟨a, [], c', d, by simp, hc, rfl, hb, .inl rfl⟩
  · exact ⟨c, a₂, [], b, ha, by simp, hd, rfl, .inr rfl⟩

theorem suffix_snoc {α : Type} {a b l : List α} {x : α} (h : a ++ b = l ++ [x]) (hne : b ≠ []) :
    ∃ b', b = b' ++ [x] :=
  ((List.suffix_concat_iff.mp ⟨a, h⟩).resolve_left hne).imp fun _ h => h.1

theorem suffix_tail {α : Type} {l t : List α} (h : ∃ pre, l = pre ++ t) : ∃ pre, l = pre ++ t.tail := by
  obtain ⟨pre, rfl⟩ := h
  cases t with
  | nil => exact ⟨pre, rfl⟩
  | cons a r => exact ⟨pre ++ [a], by simp⟩

theorem take_append_cut {α : Type} (a b : List α) (n : Nat) (hn : n < (a ++ b).length) :
    n < a.length ∧ (a ++ b).take n = a.take n ∨
    ∃ k, k < b.length ∧ (a ++ b).take n = a ++ b.take k := by
  rw [List.length_append] at hn
  by_cases hlt : n < a.length
  · exact .inl ⟨hlt, List.take_append_of_le_length (Nat.le_of_lt hlt)⟩
  · exact .inr ⟨n - a.length, by omega, by
      rw [List.take_append, List.take_of_length_le (Nat.le_of_not_lt hlt)]⟩

theorem sorted_ext {α : Type} {r : α → α → Prop} (asym : ∀ {a b}, r a b → r b a → False) {l₁ l₂ : List α}
    (h1 : l₁.Pairwise r) (h2 : l₂.Pairwise r) (hm : ∀ x, x ∈ l₁ ↔ x ∈ l₂) : l₁ = l₂ := by
  have nd : ∀ {l : List α}, l.Pairwise r → l.Nodup := fun h => h.imp fun {a b} hab (e : a = b) => asym hab (e ▸ hab)
  exact List.Perm.eq_of_pairwise (fun _ _ _ _ hab hba => (asym hab hba).elim) h1 h2
    ((List.perm_ext_iff_of_nodup (nd h1) (nd h2)).mpr hm)

theorem find?_filter_of_imp {α : Type} {p q : α → Bool} (h : ∀ x, q x = true → p x = true) (l : List α) :
    (l.filter p).find? q = l.find? q := by
  rw [List.find?_filter]
  congr 1
  funext x
  cases hq : q x
  · simp
  · simp [h x hq]

/-- with core's `List.lookup_cons_self`: looking a literal key up is a walk of rewrites -/
theorem lookup_cons_ne {α β : Type} [BEq α] [LawfulBEq α] {k a : α} {b : β} {es : List (α × β)} (h : k ≠ a) :
    List.lookup k ((a, b) :: es) = List.lookup k es := by
  simp [List.lookup, beq_false_of_ne h]

theorem lookup_append_of_not_mem {α β : Type} [BEq α] [LawfulBEq α] {pre l : List (α × β)} {k : α}
    (h : k ∉ pre.map (·.1)) : (pre ++ l).lookup k = l.lookup k := by
  induction pre with
  | nil => rfl
  | cons p ps ih =>
    obtain ⟨a, b⟩ := p
    rw [List.map_cons, List.mem_cons, not_or] at h
    rw [List.cons_append, lookup_cons_ne h.1, ih h.2]

theorem filter_comm {α : Type} (p q : α → Bool) (l : List α) : (l.filter p).filter q = (l.filter q).filter p := by
  rw [List.filter_filter, List.filter_filter]; congr 1; funext x; exact Bool.and_comm _ _

theorem set_split {α : Type} {l : List α} {i : Nat} {x : α} (h : l[i]? = some x) :
    ∃ l₁ l₂, l = l₁ ++ x :: l₂ ∧ ∀ a, l.set i a = l₁ ++ a :: l₂ := by
  induction l generalizing i with
  | nil => cases h
  | cons y r ih =>
    cases i with
    | zero => cases h; exact ⟨[], r, rfl, fun _ => rfl⟩
    | succ i =>
      obtain ⟨l₁, l₂, e, hs⟩ := ih (i := i) h
      exact ⟨y :: l₁, l₂, by rw [e]; rfl, fun a => by rw [List.set_cons_succ, hs a]; rfl⟩

theorem sum_map_set {α : Type} (f : α → Nat) {l : List α} {i : Nat} {x : α} (h : l[i]? = some x) (a : α) :
    ((l.set i a).map f).sum + f x = (l.map f).sum + f a := by
  obtain ⟨l₁, l₂, rfl, hs⟩ := set_split h
  simp only [hs, List.map_append, List.map_cons, List.sum_append, List.sum_cons]
  omega

theorem countP_set {α : Type} (p : α → Bool) {l : List α} {i : Nat} {x : α} (h : l[i]? = some x) (a : α) :
    (l.set i a).countP p + (p x).toNat = l.countP p + (p a).toNat := by
  obtain ⟨l₁, l₂, rfl, hs⟩ := set_split h
  simp only [hs, List.countP_append, List.countP_cons]
  cases p x <;> cases p a <;> simp +arith

theorem map_set_of_eq {α β : Type} (f : α → β) {a b : α} (hf : f b = f a) (l : List α) (n : Nat)
    (h : l[n]? = some a) : (l.set n b).map f = l.map f := by
  obtain ⟨l₁, l₂, rfl, hs⟩ := set_split h
  rw [hs, List.map_append, List.map_append, List.map_cons, List.map_cons, hf]

theorem get_set_cases {α : Type} (l : List α) (i : Nat) (a : α) :
    ∀ j b, (l.set i a)[j]? = some b → j = i ∧ b = a ∨ j ≠ i ∧ l[j]? = some b := by
  intro j b h
  by_cases hj : j = i
  · subst hj
    rw [List.getElem?_set, if_pos rfl] at h
    split at h <;> cases h
    exact Or.inl ⟨rfl, rfl⟩
  · rw [List.getElem?_set_ne (Ne.symm hj)] at h
    exact Or.inr ⟨hj, h⟩

theorem get_self_cases {α : Type} {l : List α} {i : Nat} {a : α} (h : l[i]? = some a) :
    ∀ j b, l[j]? = some b → j = i ∧ b = a ∨ j ≠ i ∧ l[j]? = some b := by
  intro j b hb
  by_cases hj : j = i
  · subst hj; rw [h] at hb; cases hb; exact Or.inl ⟨rfl, rfl⟩
  · exact Or.inr ⟨hj, hb⟩

theorem forall_set {α : Type} {P Q : Nat → α → Prop} {l : List α} (hall : ∀ (j : Nat) (x : α), l[j]? = some x → P j x)
    (i : Nat) {a : α} (hnew : Q i a) (hoth : ∀ j x, j ≠ i → P j x → Q j x) :
    ∀ (j : Nat) (x : α), (l.set i a)[j]? = some x → Q j x := by
  intro j x hx
  rcases get_set_cases _ _ _ _ _ hx with ⟨rfl, rfl⟩ | ⟨hj, hx'⟩
  · exact hnew
  · exact hoth j x hj (hall j x hx')

theorem perm_eraseIdx {α : Type} (l : List α) (n : Nat) (a : α) (h : l[n]? = some a) : l.Perm (a :: l.eraseIdx n) := by
  induction l generalizing n with
  | nil => simp at h
  | cons x r ih =>
    cases n with
    | zero => simp at h; subst h; simp
    | succ m =>
      simp only [List.getElem?_cons_succ] at h
      simp only [List.eraseIdx_cons_succ]
      exact (List.Perm.cons x (ih m h)).trans (List.Perm.swap a x _)

theorem lock_ne {α : Type} {lock : Option α} {me u : α} (h : lock = none ∨ lock = some me) (hu : u ≠ me) :
    lock ≠ some u := by
  rintro rfl
  rcases h with h | h
  · cases h
  · exact hu (Option.some.inj h)

theorem le_foldl_max {l : List Nat} {x : Nat} (a : Nat) (hx : x ∈ l) : x ≤ l.foldl max a :=
  -- `(a :: l).max?` is `some (l.foldl max a)` by definition
  (List.max?_le_iff (xs := a :: l) rfl).mp (Nat.le_refl _) x (List.mem_cons_of_mem a hx)

end Fjall
