/-
  What one operation does to an optimistic transaction: `xstep` appends `footOf op` to the reads, puts
  `wkeysOf op` in front of the conflict keys, keeps the instant, and leaves the own writes alone or pushes
  one entry under the key it records (`xstep_base`).  Footprint soundness: each `BaseTx` primitive
  gives the same result on two snapshots that agree where its footprint looks; two snapshots agree
  there if they agree on every key that lies in no key list the reads do not conflict with
  (`agreeOn_of_valid`: validation finds no conflict with the keys written in between).  The committed log as a state: a batch over the older state is `ownView` of
  its items (`stateTop_cons`), so the log after a commit is the map the transaction refines
  (`stateTop_commit`); `stateAt` is `stateTop` of the log cut at an instant.
-/
import FjallModel.Tx.Ssi
import FjallModel.Lemmas.TxBase
namespace Fjall.Tx
open Fjall Fjall.Spec

def footOf : XOp → List Foot
  | .get ks k => [.point ks k]
  | .contains ks k => [.point ks k]
  | .sizeOf ks k => [.point ks k]
  | .range ks lo hi => markRange ks lo hi
  | .pfx ks p => markRange ks (prefixRange p).1 (prefixRange p).2
  | .iter ks => [.all ks]
  | .first ks => [.all ks]
  | .last ks => [.all ks]
  | .len ks => [.all ks]
  | .isEmpty ks => [.all ks]
  | .insert .. => []
  | .remove .. => []
  | .fetchUpdate ks k _ => [.point ks k]
  | .updateFetch ks k _ => [.point ks k]
  | .take ks k => [.point ks k]

def wkeysOf : XOp → List (KsId × Key)
  | .insert ks k _ | .remove ks k | .fetchUpdate ks k _ | .updateFetch ks k _ | .take ks k => [(ks, k)]
  | _ => []

theorem xstep_reads (t : OTx) (op : XOp) : (xstep t op).1.reads = t.reads ++ footOf op := by
  cases op with
  | insert | remove => exact (List.append_nil _).symm
  | _ => rfl

theorem xstep_wkeys (t : OTx) (op : XOp) : (xstep t op).1.wkeys = wkeysOf op ++ t.wkeys := by
  cases op <;> rfl

theorem xstep_instant (t : OTx) (op : XOp) : (xstep t op).1.instant = t.instant := by
  cases op <;> rfl

theorem xstep_base (t : OTx) (op : XOp) :
    (xstep t op).1.base = t.base ∨
      ∃ ks k kind v, (ks, k) ∈ wkeysOf op ∧ (xstep t op).1.base = t.base.push ks k kind v := by
  have rmw : ∀ ks k f, (t.base.fetchUpdate ks k f).1 = t.base ∨
      ∃ ks' k' kind v, (ks', k') ∈ [(ks, k)] ∧ (t.base.fetchUpdate ks k f).1 = t.base.push ks' k' kind v := by
    intro ks k f
    rw [BaseTx.fetchUpdate_fst]
    split
    · exact .inl rfl
    · split <;> exact .inr ⟨ks, k, _, _, List.mem_singleton.mpr rfl, rfl⟩
  cases op with
  | insert ks k v | remove ks k => exact .inr ⟨ks, k, _, _, List.mem_singleton.mpr rfl, rfl⟩
  | fetchUpdate ks k f | updateFetch ks k f => exact rmw ks k f
  | take ks k => exact rmw ks k fun _ => none
  | _ => exact .inl rfl

theorem xstep_snap (t : OTx) (op : XOp) : (xstep t op).1.base.snap = t.base.snap := by
  rcases xstep_base t op with h | ⟨_, _, _, _, _, h⟩ <;> rw [h] <;> rfl

theorem xstep_marks (t : OTx) (op : XOp) :
    ∀ e ∈ (xstep t op).1.base.mem, e ∈ t.base.mem ∨ (e.ks, e.key) ∈ (xstep t op).1.wkeys := by
  intro e he
  rcases xstep_base t op with h | ⟨ks, k, kind, v, hk, h⟩ <;> rw [h] at he
  · exact .inl he
  · rcases List.mem_cons.mp he with rfl | he
    · exact .inr (by rw [xstep_wkeys]; exact List.mem_append_left _ hk)
    · exact .inl he

theorem xstep_wkeys_mono (t : OTx) (op : XOp) : ∀ kk ∈ t.wkeys, kk ∈ (xstep t op).1.wkeys := by
  intro kk hk; rw [xstep_wkeys]; exact List.mem_append_right _ hk

def AgreeOn (fs : List Foot) (s s' : KsId → KMap) : Prop :=
  ∀ ks k, (∃ f ∈ fs, f.covers ks k = true) → (s ks).get k = (s' ks).get k

def SameOwn (t t' : OTx) : Prop := t.base.mem = t'.base.mem ∧ t.base.seqno = t'.base.seqno

theorem AgreeOn.mono {fs fs' : List Foot} {s s' : KsId → KMap} (h : AgreeOn fs s s')
    (hsub : ∀ f ∈ fs', f ∈ fs) : AgreeOn fs' s s' :=
  fun ks k ⟨f, hf, hc⟩ => h ks k ⟨f, hsub f hf, hc⟩

theorem base_get_congr (b b' : BaseTx) (hm : b.mem = b'.mem) (ks : KsId) (k : Key)
    (h : (b.snap ks).get k = (b'.snap ks).get k) : b.get ks k = b'.get ks k := by
  simp only [BaseTx.get, BaseTx.newestOwn, hm]
  split
  · rfl
  · exact h

theorem view_get_congr (b b' : BaseTx) (hm : b.mem = b'.mem) (ks : KsId) (k : Key)
    (h : (b.snap ks).get k = (b'.snap ks).get k) : (b.view ks).get k = (b'.view ks).get k := by
  rw [← get_eq_view, ← get_eq_view]
  exact base_get_congr b b' hm ks k h

theorem inRange_false_of_rangeEmpty {lo hi : Bound} (h : rangeEmpty lo hi = true) (k : Key) :
    inRange lo hi k = false := by
  apply Bool.eq_false_iff.mpr
  intro hc
  -- in core's order: `a ≤ k ≤ b`, strictly at an exclusive end, against `b < a` or, with an exclusive end, `b ≤ a`
  rcases lo with _ | a | a <;> rcases hi with _ | b | b <;>
    simp only [rangeEmpty, inRange, Bound.lowerOk, Bound.upperOk, Bool.false_eq_true, Bool.and_eq_true,
      Bool.not_eq_true', bytesLt_iff, bytesLt_eq_false_iff, bytesLt_or_eq_iff] at h hc
  · exact List.le_trans hc.1 hc.2 h
  · exact h (List.lt_of_le_of_lt hc.1 hc.2)
  · exact h (Std.lt_of_lt_of_le hc.1 hc.2)
  · exact h (List.lt_trans hc.1 hc.2)

theorem markRange_covers (ks : KsId) (lo hi : Bound) (k : Key) (hr : inRange lo hi k = true) :
    ∃ f ∈ markRange ks lo hi, f.covers ks k = true := by
  unfold markRange
  by_cases he : rangeEmpty lo hi = true
  · rw [inRange_false_of_rangeEmpty he] at hr; cases hr
  · rw [if_neg he]
    by_cases hu : lo = .unbounded ∧ hi = .unbounded
    · rw [if_pos hu]; exact ⟨_, List.mem_singleton.mpr rfl, decide_eq_true rfl⟩
    · rw [if_neg hu]; exact ⟨_, List.mem_singleton.mpr rfl, by simp [Foot.covers, hr]⟩

theorem range_out_congr (b b' : BaseTx) (hm : b.mem = b'.mem) (ks : KsId) (lo hi : Bound)
    (h : AgreeOn (markRange ks lo hi) b.snap b'.snap) :
    (b.view ks).range lo hi = (b'.view ks).range lo hi := by
  apply range_congr_on
  intro k hr
  exact view_get_congr b b' hm ks k (h ks k (markRange_covers ks lo hi k hr))

theorem all_out_congr (b b' : BaseTx) (hm : b.mem = b'.mem) (ks : KsId)
    (h : AgreeOn [.all ks] b.snap b'.snap) : (b.view ks).toList = (b'.view ks).toList := by
  apply toList_congr
  intro k
  exact view_get_congr b b' hm ks k (h ks k ⟨.all ks, by simp, by simp [Foot.covers]⟩)

theorem point_out_congr (b b' : BaseTx) (hm : b.mem = b'.mem) (ks : KsId) (k : Key)
    (h : AgreeOn [.point ks k] b.snap b'.snap) : b.get ks k = b'.get ks k :=
  base_get_congr b b' hm ks k (h ks k ⟨.point ks k, by simp, by simp [Foot.covers]⟩)

theorem push_own_congr {b b' : BaseTx} (hm : b.mem = b'.mem) (hq : b.seqno = b'.seqno)
    (ks : KsId) (k : Key) (kind : TKind) (v : Val) :
    (b.push ks k kind v).mem = (b'.push ks k kind v).mem ∧
      (b.push ks k kind v).seqno = (b'.push ks k kind v).seqno := by
  simp only [BaseTx.push, hm, hq, and_self]

theorem fetchUpdate_own_congr {b b' : BaseTx} (hm : b.mem = b'.mem) (hq : b.seqno = b'.seqno)
    {ks : KsId} {k : Key} (hg : b.get ks k = b'.get ks k) (f : Option Val → Option Val) :
    (b.fetchUpdate ks k f).1.mem = (b'.fetchUpdate ks k f).1.mem ∧
      (b.fetchUpdate ks k f).1.seqno = (b'.fetchUpdate ks k f).1.seqno := by
  rw [BaseTx.fetchUpdate_fst, BaseTx.fetchUpdate_fst, hg]
  split
  · exact ⟨hm, hq⟩
  · split <;> exact push_own_congr hm hq ..

theorem xstep_footprint_sound (t t' : OTx) (op : XOp) (hs : SameOwn t t')
    (ha : AgreeOn (footOf op) t.base.snap t'.base.snap) :
    (xstep t op).2 = (xstep t' op).2 ∧ SameOwn (xstep t op).1 (xstep t' op).1 := by
  obtain ⟨hm, hq⟩ := hs
  have pt := point_out_congr _ _ hm
  have rmw := fun ks k f h => fetchUpdate_own_congr hm hq (pt ks k h) f
  cases op with
  | get ks k | contains ks k | sizeOf ks k =>
    exact ⟨by simp only [xstep, BaseTx.containsKey, BaseTx.sizeOf, pt ks k ha], hm, hq⟩
  | range ks lo hi => exact ⟨congrArg XOut.pairs (range_out_congr _ _ hm ks lo hi ha), hm, hq⟩
  | pfx ks p => exact ⟨congrArg XOut.pairs (range_out_congr _ _ hm ks _ _ ha), hm, hq⟩
  | iter ks | first ks | last ks | len ks | isEmpty ks =>
    exact ⟨by simp only [xstep, all_out_congr _ _ hm ks ha], hm, hq⟩
  | insert ks k v | remove ks k => exact ⟨rfl, push_own_congr hm hq ..⟩
  | fetchUpdate ks k f | updateFetch ks k f =>
    exact ⟨by simp only [xstep, BaseTx.updateFetch, BaseTx.fetchUpdate_snd, pt ks k ha], rmw ks k f ha⟩
  | take ks k =>
    exact ⟨by simp only [xstep, BaseTx.take, BaseTx.fetchUpdate_snd, pt ks k ha], rmw ks k (fun _ => none) ha⟩

theorem xrun_snoc (t : OTx) (p : List XOp) (o : XOp) :
    xrun t (p ++ [o]) = ((xstep (xrun t p).1 o).1, (xrun t p).2 ++ [(xstep (xrun t p).1 o).2]) := by
  induction p generalizing t with
  | nil => simp [xrun]
  | cons a r ih =>
    simp only [List.cons_append, xrun]
    rw [ih]

theorem xrun_reads (t : OTx) (ops : List XOp) :
    (xrun t ops).1.reads = t.reads ++ ops.flatMap footOf := by
  induction ops generalizing t with
  | nil => simp [xrun]
  | cons o os ih =>
    simp only [xrun, List.flatMap_cons]
    rw [ih, xstep_reads, List.append_assoc]

theorem xrun_footprint_sound (t t' : OTx) (ops : List XOp) (hs : SameOwn t t')
    (ha : AgreeOn (ops.flatMap footOf) t.base.snap t'.base.snap) :
    (xrun t ops).2 = (xrun t' ops).2 ∧ SameOwn (xrun t ops).1 (xrun t' ops).1 := by
  induction ops generalizing t t' with
  | nil => exact ⟨rfl, hs⟩
  | cons o os ih =>
    obtain ⟨h1, h2⟩ := xstep_footprint_sound t t' o hs (ha.mono fun f hf => by simp [hf])
    have ha2 : AgreeOn (os.flatMap footOf) (xstep t o).1.base.snap (xstep t' o).1.base.snap := by
      rw [xstep_snap, xstep_snap]
      exact ha.mono fun f hf => by simp [hf]
    obtain ⟨h3, h4⟩ := ih _ _ h2 ha2
    simp only [xrun]
    exact ⟨by rw [h1, h3], h4⟩

def fresh (i : Nat) (S : KsId → KMap) : OTx := { instant := i, base := { snap := S } }

theorem xrun_congr_snap {S S' : KsId → KMap} {prog : List XOp} (h : AgreeOn (prog.flatMap footOf) S S')
    (i i' : Nat) :
    (xrun (fresh i' S') prog).2 = (xrun (fresh i S) prog).2 ∧
    (xrun (fresh i' S') prog).1.base.commitBatch = (xrun (fresh i S) prog).1.base.commitBatch := by
  obtain ⟨h1, h2, _⟩ := xrun_footprint_sound (fresh i S) (fresh i' S') prog ⟨rfl, rfl⟩ h
  exact ⟨h1.symm, congrArg commitItems h2.symm⟩

theorem xrun_instant_irrelevant (S : KsId → KMap) (prog : List XOp) (i i' : Nat) :
    (xrun (fresh i' S) prog).2 = (xrun (fresh i S) prog).2 ∧
    (xrun (fresh i' S) prog).1.base.commitBatch = (xrun (fresh i S) prog).1.base.commitBatch :=
  xrun_congr_snap (fun _ _ _ => rfl) i i'

theorem hasConflict_false (reads : List Foot) (keys : List (KsId × Key))
    (h : hasConflict reads keys = false) :
    ∀ f ∈ reads, ∀ kk ∈ keys, f.covers kk.1 kk.2 = false := by
  intro f hf kk hk
  simp only [hasConflict, List.any_eq_false, Foot.hits] at h
  have := h f hf
  simp only [Bool.not_eq_true, List.any_eq_false] at this
  have := this kk hk
  simpa using this

theorem agreeOn_of_valid {S S' : KsId → KMap} {prog : List XOp} (i : Nat)
    (h : ∀ ks k, (∀ keys, hasConflict (xrun (fresh i S) prog).1.reads keys = false → (ks, k) ∉ keys) →
      (S ks).get k = (S' ks).get k) : AgreeOn (prog.flatMap footOf) S S' := by
  intro ks k ⟨f, hf, hc⟩
  refine h ks k fun keys hv hin => ?_
  have := hasConflict_false _ keys hv f (by rw [xrun_reads]; exact hf) (ks, k) hin
  rw [hc] at this
  cases this

theorem stateTop_cons (e : LogEntry) (log : List LogEntry) (ks : KsId) :
    stateTop (e :: log) ks = ownView e.items (stateTop log ks) ks := rfl

theorem stateTop_commit {L : List LogEntry} {b : BaseTx} {m : KsId → KMap} (hs : b.snap = stateTop L) (h : R b m)
    (sq : Nat) (ks : KsId) : (stateTop (⟨sq, b.commitBatch⟩ :: L) ks).Equiv (m ks) := by
  intro k
  rw [stateTop_cons, ← hs]
  exact (ownView_commitItems b.mem (b.snap ks) ks k).trans (h ks k)

theorem stateTop_filter (log : List LogEntry) (i : Nat) : stateTop (log.filter (·.seqno < i)) = stateAt log i := rfl

theorem stateAt_cons_lt (e : LogEntry) (log : List LogEntry) (ks : KsId) {i : Nat} (h : e.seqno < i) :
    stateAt (e :: log) i ks = ownView e.items (stateAt log i ks) ks := by
  rw [← stateTop_filter, List.filter_cons, if_pos (decide_eq_true h), stateTop_cons, stateTop_filter]

theorem stateAt_cons_ge (e : LogEntry) (log : List LogEntry) {i : Nat} (h : i ≤ e.seqno) :
    stateAt (e :: log) i = stateAt log i := by
  rw [← stateTop_filter, List.filter_cons, if_neg (by simpa using h), stateTop_filter]

theorem stateTop_get_eq_stateAt (log : List LogEntry) (i : Nat) (ks : KsId) (k : Key)
    (h : ∀ e ∈ log, i ≤ e.seqno → ∀ it ∈ e.items, ¬ (it.ks = ks ∧ it.key = k)) :
    (stateTop log ks).get k = (stateAt log i ks).get k := by
  induction log with
  | nil => rfl
  | cons e r ih =>
    have ih' := ih fun e' he' => h e' (List.mem_cons_of_mem _ he')
    rw [stateTop_cons, ownView_get, ownGet]
    by_cases hlt : e.seqno < i
    · rw [stateAt_cons_lt e r ks hlt, ownView_get, ownGet, ih']
    · have hge : i ≤ e.seqno := Nat.le_of_not_lt hlt
      rw [stateAt_cons_ge e r hge,
        List.find?_eq_none.mpr fun it hit hd => h e List.mem_cons_self hge it hit (of_decide_eq_true hd)]
      exact ih'

end Fjall.Tx
