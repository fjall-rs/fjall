/-
  The history invariant of the Conc model (C14): the log replayed against a sequential map
  (`linRun`) and against the bracket discipline (`wbRun`).  The replay's map is the store read
  newest first, which in a store in seqno order is what a latest read finds (`lookup_top_sorted`);
  the open calls are those of the threads that hold the mutex for a write or are opening a
  snapshot.  A step opens a call, closes one or does neither: `WbAcc.call`, `.ret`, `.same`.
-/
import FjallModel.Lemmas.Conc
namespace Fjall.Conc
open Fjall.Spec

/-- newest first -/
abbrev SpecMap := List ((KsId × Key) × Option Val)

def specGet (m : SpecMap) (ks : KsId) (key : Key) : Option Val :=
  match m with
  | [] => none
  | (k, v) :: r => if k = (ks, key) then v else specGet r ks key

/-- replay of the linearization points in history order against a plain map -/
def linStep (acc : SpecMap × Bool) : Ev → SpecMap × Bool
  | .applied _ e => (((e.ks, e.key), e.val) :: acc.1, acc.2)
  | .readTop _ ks key res => (acc.1, acc.2 && (specGet acc.1 ks key == res))
  | _ => acc

def linRun (log : List Ev) : SpecMap × Bool := log.foldl linStep ([], true)

/-- every `Keyspace::get`-style read returned what a sequential map holds at its linearization
    point, the writes taking effect at their memtable apply -/
def Linearizable (log : List Ev) : Prop := (linRun log).2 = true

/-- bracket discipline of the history: calls and returns of a thread alternate, and every
    linearization point of a thread lies between a call and the matching return -/
def wbStep (acc : List Tid × Bool) : Ev → List Tid × Bool
  | .call t _ => (t :: acc.1, acc.2 && !acc.1.contains t)
  | .ret t => (acc.1.erase t, acc.2 && acc.1.contains t)
  | .applied t _ => (acc.1, acc.2 && acc.1.contains t)
  | .readTop t _ _ _ => (acc.1, acc.2 && acc.1.contains t)
  | .opened t _ => (acc.1, acc.2 && acc.1.contains t)

def wbRun (log : List Ev) : List Tid × Bool := log.foldl wbStep ([], true)

def WellBracketed (log : List Ev) : Prop := (wbRun log).2 = true

def Entry.kv (e : Entry) : (KsId × Key) × Option Val := ((e.ks, e.key), e.val)

/-- A latest read scans the store while the replay builds its map: over a store in seqno order every
    hit replaces the candidate of the scan, so the candidate's value is what the map holds for the key. -/
theorem best_top_sorted (ks : KsId) (key : Key) (l : List Entry) (acc : Option Entry) (m : SpecMap)
    (hm : specGet m ks key = match acc with | some a => a.val | none => none)
    (hs : l.Pairwise (fun a b => a.seqno ≤ b.seqno)) (ha : ∀ a, acc = some a → ∀ e ∈ l, a.seqno ≤ e.seqno) :
    (match best ks key none l acc with | some e => e.val | none => none) =
      specGet ((l.map Entry.kv).reverse ++ m) ks key := by
  induction l generalizing acc m with
  | nil => exact hm.symm
  | cons e r ih =>
    have ⟨he, hr⟩ := List.pairwise_cons.mp hs
    rw [List.map_cons, List.reverse_cons, List.append_assoc]
    simp only [best]
    by_cases hk : e.ks = ks ∧ e.key = key
    · rw [if_pos (by simp [Entry.hit, below, hk])]
      have := ih (some e) ([e.kv] ++ m) (by simp [specGet, Entry.kv, hk]) hr (fun _ h => Option.some.inj h ▸ he)
      cases acc with
      | none => exact this
      | some a => simpa only [if_pos (ha a rfl e List.mem_cons_self)] using this
    · rw [if_neg (by simpa [Entry.hit, below] using hk)]
      exact ih acc _ (by simp [specGet, Entry.kv, hk, hm]) hr (fun a h x hx => ha a h x (List.mem_cons_of_mem _ hx))

theorem lookup_top_sorted (store : List Entry) (ks : KsId) (key : Key)
    (h : store.Pairwise (fun a b => a.seqno ≤ b.seqno)) :
    lookup store ks key none = specGet (store.map Entry.kv).reverse ks key :=
  (best_top_sorted ks key store none [] rfl h nofun).trans (by rw [List.append_nil])

structure LinAcc (acc : SpecMap × Bool) (store : List Entry) : Prop where
  ok : acc.2 = true
  map : acc.1 = (store.map Entry.kv).reverse

section
variable {acc : SpecMap × Bool} {store : List Entry}

theorem LinAcc.applied (h : LinAcc acc store) (t : Tid) (e : Entry) :
    LinAcc (linStep acc (.applied t e)) (store ++ [e]) :=
  ⟨h.ok, by simp [linStep, h.map, Entry.kv]⟩

theorem LinAcc.appliedAll (h : LinAcc acc store) (t : Tid) (sq : Nat) (items : List Item) :
    LinAcc ((items.map fun it => Ev.applied t (it.entry sq)).foldl linStep acc) (store ++ items.map (Item.entry sq)) := by
  induction items generalizing acc store with
  | nil => simpa using h
  | cons it rest ih => simpa using ih (h.applied t (it.entry sq))

theorem LinAcc.readTop (h : LinAcc acc store) (hs : store.Pairwise (fun a b => a.seqno ≤ b.seqno))
    (t : Tid) (ks : KsId) (key : Key) :
    LinAcc (linStep acc (.readTop t ks key (lookup store ks key none))) store :=
  ⟨by simp [linStep, h.ok, h.map, lookup_top_sorted store ks key hs], h.map⟩

end

section
variable {acc acc' : List Tid × Bool} {l l' : Option (Tid × LPhase)} {ths ths' : List Thread} {t : Tid} {th th' : Thread}

def LPhase.isWrite : LPhase → Bool
  | .rLocked => false
  | _ => true

/-- what the model's `loading` asks of each thread -/
def Phase.loading : Phase → Bool
  | .sLoaded _ => true
  | _ => false

def held (lock : Option (Tid × LPhase)) (t : Tid) : Option LPhase :=
  match lock with
  | some (h, lp) => if h = t then some lp else none
  | none => none

@[simp] theorem held_self (t : Tid) (lp : LPhase) : held (some (t, lp)) t = some lp := by simp [held]

@[simp] theorem held_none (t : Tid) : held none t = none := rfl

theorem held_free (hnh : ∀ ph, l ≠ some (t, ph)) : held l t = none := by
  unfold held
  split
  · rw [if_neg]; rintro rfl; exact hnh _ rfl
  · rfl

theorem held_others (h : ∀ p, l = some p → p.1 = t) (h' : ∀ p, l' = some p → p.1 = t) :
    ∀ t', t' ≠ t → held l' t' = held l t' :=
  fun _ ht => (held_free fun _ hc => ht (h' _ hc)).trans (held_free fun _ hc => ht (h _ hc)).symm

/-- is a thread between a `call` and its `ret`?  It holds the journal mutex for a write or an
    ingestion (`hl`: the phase in which it holds the mutex), or it is opening a snapshot. -/
def busy (hl : Option LPhase) (p : Phase) : Bool := hl.any LPhase.isWrite || p.loading

structure ThreadWb (opn : List Tid) (hl : Option LPhase) (t : Tid) (p : Phase) : Prop where
  mem : t ∈ opn ↔ busy hl p = true
  idle : hl ≠ none → p = .idle

structure WbAcc (acc : List Tid × Bool) (lock : Option (Tid × LPhase)) (threads : List Thread) : Prop where
  ok : acc.2 = true
  nodup : acc.1.Nodup
  thr : ∀ t th, threads[t]? = some th → ThreadWb acc.1 (held lock t) t th.phase

def Ev.inside (t : Tid) : Ev → Prop
  | .applied t' _ | .readTop t' _ _ _ | .opened t' _ => t' = t
  | _ => False

theorem wbStep_inside (hin : t ∈ acc.1) {e : Ev} (he : e.inside t) : wbStep acc e = acc := by
  have hacc : (acc.1, acc.2 && acc.1.contains t) = acc := by
    rw [List.contains_iff_mem.mpr hin, Bool.and_true]
  cases e with
  | applied | readTop | opened => cases he; exact hacc
  | call | ret => cases he

theorem foldl_wbStep_inside (hin : t ∈ acc.1) (evs : List Ev) (he : ∀ e ∈ evs, e.inside t) :
    evs.foldl wbStep acc = acc := by
  induction evs with
  | nil => rfl
  | cons e r ih =>
    rw [List.foldl_cons, wbStep_inside hin (he e (List.mem_cons_self ..)), ih (fun e h => he e (List.mem_cons_of_mem _ h))]

theorem foldl_wbStep_atomic (hn : t ∉ acc.1) (hok : acc.2 = true) (c : Cmd) {e : Ev} (he : e.inside t) :
    [.call t c, e, .ret t].foldl wbStep acc = acc := by
  obtain ⟨opn, ok⟩ := acc
  cases hok
  have hcall : wbStep (opn, true) (.call t c) = (t :: opn, true) := by simp [wbStep, hn]
  rw [List.foldl_cons, hcall, List.foldl_cons, wbStep_inside List.mem_cons_self he]
  simp [wbStep]

theorem WbAcc.step (h : WbAcc acc l ths)
    (hok : acc'.2 = true) (hnd : acc'.1.Nodup) (hmem : ∀ t', t' ≠ t → (t' ∈ acc'.1 ↔ t' ∈ acc.1))
    (hlock : ∀ t', t' ≠ t → held l' t' = held l t')
    (hths : ∀ t' x, ths'[t']? = some x → t' = t ∧ x = th' ∨ t' ≠ t ∧ ths[t']? = some x)
    (hnew : ThreadWb acc'.1 (held l' t) t th'.phase) : WbAcc acc' l' ths' := by
  refine ⟨hok, hnd, fun t' x hx => ?_⟩
  rcases hths t' x hx with ⟨rfl, rfl⟩ | ⟨hne, hx'⟩
  · exact hnew
  · have := h.thr t' x hx'
    rw [hlock t' hne]
    exact ⟨(hmem t' hne).trans this.mem, this.idle⟩

theorem WbAcc.same (h : WbAcc acc l ths) (hth : ths[t]? = some th)
    (hlock : ∀ t', t' ≠ t → held l' t' = held l t')
    (hths : ∀ t' x, ths'[t']? = some x → t' = t ∧ x = th' ∨ t' ≠ t ∧ ths[t']? = some x)
    (hb : busy (held l' t) th'.phase = busy (held l t) th.phase)
    (hidle : held l' t ≠ none → th'.phase = .idle) : WbAcc acc l' ths' :=
  h.step h.ok h.nodup (fun _ _ => Iff.rfl) hlock hths ⟨hb ▸ (h.thr t th hth).mem, hidle⟩

theorem WbAcc.call (h : WbAcc acc l ths) (hth : ths[t]? = some th) (c : Cmd)
    (hlock : ∀ t', t' ≠ t → held l' t' = held l t')
    (hths : ∀ t' x, ths'[t']? = some x → t' = t ∧ x = th' ∨ t' ≠ t ∧ ths[t']? = some x)
    (hb : busy (held l t) th.phase = false) (hb' : busy (held l' t) th'.phase = true)
    (hidle : held l' t ≠ none → th'.phase = .idle) : WbAcc (wbStep acc (.call t c)) l' ths' := by
  have hn : t ∉ acc.1 := fun hin => by have := (h.thr t th hth).mem.mp hin; rw [hb] at this; cases this
  refine h.step ?_ (List.nodup_cons.mpr ⟨hn, h.nodup⟩) ?_ hlock hths ⟨?_, hidle⟩
  · simp [wbStep, h.ok, hn]
  · intro t' ht'; simp [wbStep, ht']
  · simp [wbStep, hb']

theorem WbAcc.ret (h : WbAcc acc l ths) (hth : ths[t]? = some th)
    (hlock : ∀ t', t' ≠ t → held l' t' = held l t')
    (hths : ∀ t' x, ths'[t']? = some x → t' = t ∧ x = th' ∨ t' ≠ t ∧ ths[t']? = some x)
    (hb : busy (held l t) th.phase = true) (hb' : busy (held l' t) th'.phase = false)
    (hidle : held l' t ≠ none → th'.phase = .idle) : WbAcc (wbStep acc (.ret t)) l' ths' := by
  have hin : t ∈ acc.1 := (h.thr t th hth).mem.mpr hb
  refine h.step ?_ (h.nodup.erase t) ?_ hlock hths ⟨?_, hidle⟩
  · simp [wbStep, h.ok, hin]
  · intro t' ht'; simp [wbStep, h.nodup.mem_erase_iff, ht']
  · simp [wbStep, h.nodup.mem_erase_iff, hb']

end

structure LInv (s : State) : Prop where
  lin : LinAcc (linRun s.log) s.store
  wb : WbAcc (wbRun s.log) s.lock s.threads

theorem linRun_append (log : List Ev) (evs : List Ev) : linRun (log ++ evs) = evs.foldl linStep (linRun log) := by
  simp [linRun]

theorem wbRun_append (log : List Ev) (evs : List Ev) : wbRun (log ++ evs) = evs.foldl wbStep (wbRun log) := by
  simp [wbRun]

theorem wbRun_snoc (log : List Ev) (e : Ev) : wbRun (log ++ [e]) = wbStep (wbRun log) e := wbRun_append log [e]

theorem init_linv (progs : List (List Cmd)) : LInv (init progs) := by
  refine ⟨⟨rfl, rfl⟩, rfl, List.nodup_nil, fun t th hth => ?_⟩
  simp only [init, List.getElem?_map, Option.map_eq_some_iff] at hth
  obtain ⟨p, _, rfl⟩ := hth
  exact ⟨by simp [wbRun, init, busy, Phase.loading], fun _ => rfl⟩

theorem linv_locked {cfg : Cfg} {s s' : State} {t : Tid} {th : Thread} {ph : LPhase} (hth : s.threads[t]? = some th)
    (hl : s.lock = some (t, ph)) (hstep : lockedStep cfg s t th ph = some s') (h : LInv s) : LInv s' := by
  have hheld : held s.lock t = some ph := by rw [hl, held_self]
  have hmine : ∀ p, s.lock = some p → p.1 = t := by simp [hl]
  have hidle : th.phase = .idle := (h.wb.thr t th hth).idle (by simp [hheld])
  have hin : ph.isWrite = true → t ∈ (wbRun s.log).1 := fun hw => (h.wb.thr t th hth).mem.mpr (by simp [hheld, busy, hw])
  -- inside the critical section of a write only the mutex phase matters, and it stays a write phase
  have hsame : ∀ ph' : LPhase, ph.isWrite = true → ph'.isWrite = true →
      WbAcc (wbRun s.log) (some (t, ph')) s.threads := fun ph' hw hw' =>
    h.wb.same hth (held_others hmine (by simp)) (get_self_cases hth) (by simp [hheld, busy, hw, hw']) (fun _ => hidle)
  cases ph with
  | wLocked items | wFloored items => cases hstep; exact ⟨h.lin, hsame _ rfl rfl⟩
  | wDrawn sq done rest =>
    cases rest with
    | cons it rest =>
      cases hstep
      refine ⟨?_, ?_⟩
      · rw [linRun_append]; exact h.lin.applied t _
      · rw [wbRun_snoc, wbStep_inside (hin rfl) (e := .applied ..) rfl]; exact hsame _ rfl rfl
    | nil => cases hstep; exact ⟨h.lin, hsame _ rfl rfl⟩
  | wPublished =>
    cases hstep
    refine ⟨?_, ?_⟩
    · rw [linRun_append]; exact h.lin
    · rw [wbRun_snoc]
      exact h.wb.ret hth (held_others hmine (by simp)) (get_set_cases _ _ _) (by simp [hheld, busy, LPhase.isWrite])
        (by simp [busy, hidle, Phase.loading]) (by simp)
  | rLocked =>
    cases hstep
    exact ⟨h.lin, h.wb.same hth (held_others hmine (by simp)) (get_set_cases _ _ _)
      (by simp [hheld, busy, LPhase.isWrite, hidle, Phase.loading]) (by simp)⟩
  | iLocked items =>
    cases hstep
    refine ⟨?_, ?_⟩
    · rw [linRun_append]; exact h.lin.appliedAll t _ items
    · -- `by exact`: the events are known only once the rewrite has found them
      rw [wbRun_append, foldl_wbStep_inside (hin rfl) _ (by exact List.forall_mem_map.mpr fun _ _ => rfl)]
      exact hsame _ rfl rfl
  | iGc =>
    obtain ⟨_, rfl⟩ := loading_guard hstep
    exact ⟨h.lin, hsame _ rfl rfl⟩

theorem linv_free {cfg : Cfg} {s s' : State} {t : Tid} {th : Thread}
    (hth : s.threads[t]? = some th) (hnh : ∀ ph, s.lock ≠ some (t, ph))
    (hstep : freeStep cfg s t th = some s') (hi : Inv s) (h : LInv s) : LInv s' := by
  have hnone := held_free hnh
  obtain ⟨prog, phase, view⟩ := th
  have hthr : ∀ th' : Thread, th'.phase.loading = phase.loading →
      WbAcc (wbRun s.log) s.lock (s.threads.set t th') := fun th' hp' =>
    h.wb.same hth (fun _ _ => rfl) (get_set_cases _ _ _) (by simp [busy, hp']) (fun hc => absurd hnone hc)
  have hacq : s.lock = none → ∀ lp t', t' ≠ t → held (some (t, lp)) t' = held s.lock t' :=
    fun hl lp => held_others (by simp [hl]) (by simp)
  have hcall : s.lock = none → phase = .idle → ∀ (c : Cmd) (lp : LPhase), lp.isWrite = true →
      WbAcc (wbRun (s.log ++ [.call t c])) (some (t, lp)) s.threads := fun hl hp c lp hw => by
    rw [wbRun_snoc]
    exact h.wb.call hth c (hacq hl lp) (get_self_cases hth) (by simp [busy, hnone, hp, Phase.loading])
      (by simp [busy, hw]) (fun _ => hp)
  cases phase with
  | sLoaded v =>
    cases hstep
    refine ⟨by rw [linRun_append]; exact h.lin, ?_⟩
    have hin : t ∈ (wbRun s.log).1 := (h.wb.thr t _ hth).mem.mpr (by simp [busy, Phase.loading])
    rw [wbRun_append, List.foldl_cons, wbStep_inside hin (e := .opened ..) rfl]
    exact h.wb.ret hth (fun _ _ => rfl) (get_set_cases _ _ _) (by simp [busy, Phase.loading])
      (by simp [busy, hnone, Phase.loading]) (fun _ => rfl)
  | gDrawn sq => cases hstep; exact ⟨h.lin, hthr _ rfl⟩
  | needGc =>
    obtain ⟨_, rfl⟩ := loading_guard hstep
    exact ⟨h.lin, hthr _ rfl⟩
  | idle =>
    cases prog with
    | nil => cases hstep
    | cons c r =>
      cases c with
      | write items | ingest items =>
        obtain ⟨hl, rfl⟩ := lock_guard hstep
        exact ⟨by rw [linRun_append]; exact h.lin, hcall hl rfl _ _ rfl⟩
      | rotate =>
        -- the mutex is taken, but not for a write
        obtain ⟨hl, rfl⟩ := lock_guard hstep
        exact ⟨h.lin, h.wb.same hth (hacq hl _) (get_self_cases hth)
          (by simp [busy, hnone, LPhase.isWrite]) (fun _ => rfl)⟩
      | gc =>
        obtain ⟨_, rfl⟩ := loading_guard hstep
        exact ⟨h.lin, hthr _ rfl⟩
      | close | register => cases hstep; exact ⟨h.lin, hthr _ rfl⟩
      | snap =>
        cases hstep
        refine ⟨by rw [linRun_append]; exact h.lin, ?_⟩
        rw [wbRun_snoc]
        exact h.wb.call hth _ (fun _ _ => rfl) (get_set_cases _ _ _) (by simp [busy, hnone, Phase.loading])
          (by simp [busy, Phase.loading]) (fun hc => absurd hnone hc)
      | read ks key => cases view <;> cases hstep <;> exact ⟨h.lin, hthr _ rfl⟩
      | readTop ks key =>
        -- the one place where the state invariant comes in: the read finds in the store what the
        -- replayed map holds because the store is in seqno order
        cases hstep
        have hn : t ∉ (wbRun s.log).1 := fun hin => by
          have := (h.wb.thr t _ hth).mem.mp hin; simp [busy, hnone, Phase.loading] at this
        refine ⟨by rw [linRun_append]; exact h.lin.readTop hi.store_sorted t ks key, ?_⟩
        rw [wbRun_append, foldl_wbStep_atomic hn h.wb.ok _ (e := .readTop ..) rfl]
        exact hthr _ rfl

theorem step_linv (cfg : Cfg) (s : State) (t : Tid) (hi : Inv s) (h : LInv s) : LInv (step cfg s t) :=
  step_cases t h (fun _ _ _ hth hl hs => linv_locked hth hl hs h) (fun _ _ hth hnh hs => linv_free hth hnh hs hi h)

theorem run_linv (cfg : Cfg) (hcfg : cfg.useFloor = true) (s : State) (sched : List Tid) (hi : Inv s) (h : LInv s) :
    LInv (run cfg s sched) :=
  (List.foldlRecOn (motive := fun s => Inv s ∧ LInv s) sched _ ⟨hi, h⟩ fun s hs t _ =>
    ⟨step_inv cfg hcfg s t hs.1, step_linv cfg s t hs.1 hs.2⟩).2

theorem reach_linv (progs : List (List Cmd)) (sched : List Tid) : LInv (run {} (init progs) sched) :=
  run_linv {} rfl _ sched (init_inv progs) (init_linv progs)

end Fjall.Conc
