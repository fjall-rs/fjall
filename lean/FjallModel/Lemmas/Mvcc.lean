/-
  Lookups in the tree.  `newestIn` is used through `newestIn_nil`, `newestIn_snoc` and
  `newestIn_append`; what an operation does to `absGet` is computed block by block over `comps`.
-/
import FjallModel.Mvcc.Tree
import FjallModel.Lemmas.List
namespace Fjall.Mvcc
open Fjall Fjall.Spec

def IsNewest (inst : Option Nat) (k : Key) (r : Run) (e : VEntry) : Prop :=
  e ∈ r ∧ e.key = k ∧ visible inst e = true ∧
    ∀ d ∈ r, d.key = k → visible inst d = true → d.seqno ≤ e.seqno

@[simp] theorem newestIn_nil (inst : Option Nat) (k : Key) : newestIn inst k [] = none := rfl

theorem newestIn_snoc (inst : Option Nat) (k : Key) (r : Run) (x : VEntry) :
    newestIn inst k (r ++ [x]) =
      if x.key = k ∧ visible inst x then newer (newestIn inst k r) x else newestIn inst k r := by
  simp only [newestIn, List.foldl_append, List.foldl_cons, List.foldl_nil]

theorem newer_eq (a : Option VEntry) (x : VEntry) : newer a x = some x ∨ newer a x = a := by
  cases a with
  | none => exact Or.inl rfl
  | some b => simp only [newer]; split <;> simp

theorem newer_ge (a : Option VEntry) (x : VEntry) :
    ∃ y, newer a x = some y ∧ x.seqno ≤ y.seqno ∧ ∀ b, a = some b → b.seqno ≤ y.seqno := by
  cases a with
  | none => exact ⟨x, rfl, Nat.le_refl _, fun _ h => nomatch h⟩
  | some b =>
    simp only [newer]
    split
    · rename_i hlt; exact ⟨x, rfl, Nat.le_refl _, fun _ h => by cases h; exact Nat.le_of_lt hlt⟩
    · rename_i hlt; exact ⟨b, rfl, Nat.le_of_not_lt hlt, fun _ h => by cases h; exact Nat.le_refl _⟩

theorem newestIn_mem {inst : Option Nat} {k : Key} {r : Run} {e : VEntry}
    (h : newestIn inst k r = some e) : e ∈ r ∧ e.key = k ∧ visible inst e = true := by
  induction r using snoc_induction with
  | nil => cases h
  | snoc r x ih =>
    rw [newestIn_snoc] at h
    have hr := fun h => (ih h).imp_left (List.mem_append_left [x])
    split at h
    · rename_i hx
      rcases newer_eq (newestIn inst k r) x with h' | h' <;> rw [h'] at h
      · cases h; exact ⟨by simp, hx⟩
      · exact hr h
    · exact hr h

theorem newestIn_ge {inst : Option Nat} {k : Key} {r : Run} {d : VEntry} (hd : d ∈ r) (hk : d.key = k)
    (hv : visible inst d = true) : ∃ e, newestIn inst k r = some e ∧ d.seqno ≤ e.seqno := by
  induction r using snoc_induction with
  | nil => cases hd
  | snoc r x ih =>
    rw [newestIn_snoc]
    obtain ⟨y, hy, hxy, hay⟩ := newer_ge (newestIn inst k r) x
    rcases List.mem_append.mp hd with hd | hd
    · obtain ⟨e, he, hde⟩ := ih hd
      split
      · exact ⟨y, hy, Nat.le_trans hde (hay e he)⟩
      · exact ⟨e, he, hde⟩
    · cases List.mem_singleton.mp hd
      rw [if_pos ⟨hk, hv⟩]
      exact ⟨y, hy, hxy⟩

theorem newestIn_none {inst : Option Nat} {k : Key} {r : Run} :
    newestIn inst k r = none ↔ ∀ d ∈ r, ¬ (d.key = k ∧ visible inst d = true) := by
  constructor
  · intro h d hd ⟨hk, hv⟩
    obtain ⟨e, he, _⟩ := newestIn_ge hd hk hv
    rw [h] at he; cases he
  · intro h
    cases hn : newestIn inst k r with
    | none => rfl
    | some e => exact absurd (newestIn_mem hn).2 (h e (newestIn_mem hn).1)

theorem newestIn_some {inst : Option Nat} {k : Key} {r : Run} {e : VEntry}
    (h : newestIn inst k r = some e) : IsNewest inst k r e := by
  obtain ⟨hm, hk, hv⟩ := newestIn_mem h
  refine ⟨hm, hk, hv, fun d hd hdk hdv => ?_⟩
  obtain ⟨e', he', hle⟩ := newestIn_ge hd hdk hdv
  rw [h] at he'; cases he'; exact hle

def Cross (A B : Run) : Prop := ∀ e ∈ A, ∀ e' ∈ B, e'.key = e.key → e'.seqno < e.seqno

theorem cross_mono {A A' B B' : Run} (h : Cross A B) (hA : ∀ x ∈ A', x ∈ A) (hB : ∀ x ∈ B', x ∈ B) :
    Cross A' B' := fun e he e' he' => h e (hA e he) e' (hB e' he')

/-- Where the upper block is newer per key, the merged lookup is the first hit: `newer` replaces
    only by a strictly higher seqno, so the fold never replaces a hit from `A`. -/
theorem newestIn_append {inst : Option Nat} {k : Key} {A B : Run} (h : Cross A B) :
    newestIn inst k (A ++ B) = (newestIn inst k A).or (newestIn inst k B) := by
  induction B using snoc_induction with
  | nil => simp
  | snoc B x ih =>
    rw [← List.append_assoc, newestIn_snoc, newestIn_snoc,
      ih (cross_mono h (fun _ => id) fun _ => List.mem_append_left _)]
    split
    · rename_i hx
      cases hA : newestIn inst k A with
      | none => simp
      | some a =>
        have := h a (newestIn_mem hA).1 x (by simp) (hx.1.trans (newestIn_mem hA).2.1.symm)
        simp [newer, Nat.lt_asymm this]
    · rfl

theorem ordered_cons {c : Run} {cs : List Run} : Ordered (c :: cs) ↔ Cross c cs.flatten ∧ Ordered cs := by
  refine and_congr_left fun _ => ⟨fun h e he e' he' => ?_, fun h e he d hd e' hed => ?_⟩
  · obtain ⟨d, hd, hed⟩ := List.mem_flatten.mp he'
    exact h e he d hd e' hed
  · exact h e he e' (List.mem_flatten.mpr ⟨d, hd, hed⟩)

theorem firstHit_eq_newestIn {inst : Option Nat} {k : Key} {cs : List Run} (ho : Ordered cs) :
    firstHit inst k cs = newestIn inst k cs.flatten := by
  induction cs with
  | nil => rfl
  | cons c cs ih =>
    obtain ⟨hc, ho'⟩ := ordered_cons.mp ho
    rw [List.flatten_cons, newestIn_append hc, ← ih ho', firstHit]
    cases newestIn inst k c <;> rfl

theorem pointGet_eq_abs (t : Tree) (inst : Option Nat) (k : Key) (ho : Ordered t.comps)
    (hd : Distinct t.comps.flatten) : t.pointGet inst k = t.absGet inst k := by
  rw [Tree.pointGet, Tree.absGet, firstHit_eq_newestIn ho]

theorem distinct_unique {l : Run} (hd : Distinct l) {a b : VEntry} (ha : a ∈ l) (hb : b ∈ l)
    (hk : a.key = b.key) (hs : a.seqno = b.seqno) : a = b := by
  induction l with
  | nil => cases ha
  | cons x r ih =>
    rw [Distinct, List.pairwise_cons] at hd
    rcases List.mem_cons.mp ha with rfl | ha' <;> rcases List.mem_cons.mp hb with rfl | hb'
    · rfl
    · exact absurd hs (hd.1 b hb' hk)
    · exact absurd hs.symm (hd.1 a ha' hk.symm)
    · exact ih hd.2 ha' hb'

theorem newestIn_iff {inst : Option Nat} {k : Key} {r : Run} (hd : Distinct r) {e : VEntry} :
    newestIn inst k r = some e ↔ IsNewest inst k r e := by
  refine ⟨newestIn_some, fun ⟨hm, hk, hv, hmax⟩ => ?_⟩
  obtain ⟨e', he', hle⟩ := newestIn_ge hm hk hv
  obtain ⟨hm', hk', hv'⟩ := newestIn_mem he'
  rw [he', distinct_unique hd hm' hm (hk'.trans hk.symm) (Nat.le_antisymm (hmax e' hm' hk' hv') hle)]

theorem newestIn_sublist {inst : Option Nat} {k : Key} {r r' : Run} (hd : Distinct r) (hs : r'.Sublist r)
    (h : ∀ e, newestIn inst k r = some e → e ∈ r') : newestIn inst k r' = newestIn inst k r := by
  cases hN : newestIn inst k r with
  | none => exact newestIn_none.mpr fun d hd' => newestIn_none.mp hN d (hs.subset hd')
  | some e =>
    obtain ⟨-, hk, hv, hmax⟩ := newestIn_some hN
    exact (newestIn_iff (hd.sublist hs)).mpr ⟨h e hN, hk, hv, fun d hd' => hmax d (hs.subset hd')⟩

theorem cross_append_left {A A' B : Run} : Cross (A ++ A') B ↔ Cross A B ∧ Cross A' B := by
  simp only [Cross, List.mem_append]
  exact ⟨fun h => ⟨fun e he => h e (.inl he), fun e he => h e (.inr he)⟩,
    fun h e he => he.elim (h.1 e) (h.2 e)⟩

theorem cross_append_right {A B B' : Run} : Cross A (B ++ B') ↔ Cross A B ∧ Cross A B' := by
  simp only [Cross, List.mem_append]
  exact ⟨fun h => ⟨fun e he e' he' => h e he e' (.inl he'), fun e he e' he' => h e he e' (.inr he')⟩,
    fun h e he e' he' => he'.elim (h.1 e he e') (h.2 e he e')⟩

theorem ordered_singleton (g : Run) : Ordered [g] := ⟨fun _ _ _ h => (nomatch h), trivial⟩

theorem ordered_append {A B : List Run} :
    Ordered (A ++ B) ↔ Ordered A ∧ Ordered B ∧ Cross A.flatten B.flatten := by
  induction A with
  | nil => exact ⟨fun h => ⟨trivial, h, fun _ h => (nomatch h)⟩, fun h => h.2.1⟩
  | cons a A ih =>
    simp only [List.cons_append, ordered_cons, ih, List.flatten_cons, List.flatten_append,
      cross_append_left, cross_append_right]
    constructor
    · rintro ⟨⟨h1, h2⟩, h3, h4, h5⟩; exact ⟨⟨h1, h3⟩, h4, h2, h5⟩
    · rintro ⟨⟨h1, h3⟩, h4, h2, h5⟩; exact ⟨⟨h1, h2⟩, h3, h4, h5⟩

theorem newestIn_blocks {inst : Option Nat} {k : Key} {Pre S Q : List Run}
    (ho : Ordered (Pre ++ (S ++ Q))) : newestIn inst k (Pre ++ (S ++ Q)).flatten =
      (newestIn inst k Pre.flatten).or ((newestIn inst k S.flatten).or (newestIn inst k Q.flatten)) := by
  obtain ⟨-, hSQ, hc⟩ := ordered_append.mp ho
  rw [List.flatten_append, newestIn_append hc, List.flatten_append,
    newestIn_append (ordered_append.mp hSQ).2.2]

structure Inv (t : Tree) : Prop where
  ordered : Ordered t.comps
  distinct : Distinct t.comps.flatten

theorem comps_flatten (t : Tree) :
    t.comps.flatten = t.active ++ (t.sealed.flatten ++ t.tables.flatten) := by
  rw [Tree.comps, List.flatten_cons, List.flatten_append]

theorem mem_gcRun {w : Nat} {ev : Bool} {r : Run} {e : VEntry} :
    e ∈ gcRun w ev r ↔
      e ∈ r ∧ keptBase w r e = true ∧ ¬ (ev = true ∧ e.kind ≠ .value ∧ lastKept w r e = true) := by
  simp only [gcRun, List.mem_filter, Bool.and_eq_true, Bool.not_eq_eq_eq_not, Bool.not_true,
    ← Bool.not_eq_true, bne_iff_ne, ne_eq, and_assoc]

theorem gcRun_sublist (w : Nat) (ev : Bool) (r : Run) : (gcRun w ev r).Sublist r := List.filter_sublist

theorem isNewest_iff {r : Run} {e : VEntry} :
    isNewest r e = true ↔ ∀ d ∈ r, d.key = e.key → d.seqno ≤ e.seqno :=
  List.all_eq_true.trans (forall₂_congr fun d _ => by
    rw [Bool.or_eq_true, decide_eq_true_eq, decide_eq_true_eq, Decidable.imp_iff_not_or])

theorem lastKept_iff {w : Nat} {r : Run} {e : VEntry} :
    lastKept w r e = true ↔ ∀ d ∈ r, d.key = e.key → keptBase w r d = true → e.seqno ≤ d.seqno :=
  List.all_eq_true.trans (forall₂_congr fun d _ => by
    rw [Bool.or_eq_true, Bool.or_eq_true, decide_eq_true_eq, decide_eq_true_eq, Bool.not_eq_true', ← Bool.not_eq_true,
      Decidable.imp_iff_not_or, Decidable.imp_iff_not_or, or_assoc, or_comm (a := _ ≤ _)])

theorem isNewest_of {r : Run} {k : Key} {e : VEntry} (h : IsNewest none k r e) : isNewest r e = true :=
  isNewest_iff.mpr fun d hd hdk => h.2.2.2 d hd (hdk.trans h.2.1) rfl

theorem toVal_none_of_not_value (e : VEntry) (h : e.kind ≠ .value) : e.toVal = none := by
  simp [VEntry.toVal, h]

/-- The newest version of a key is dropped only by an evicting compaction, when it is a tombstone
    and nothing of the key survives below it: the key then reads as absent, as before. -/
theorem newestIn_gcRun (w : Nat) (ev : Bool) (k : Key) {M : Run} (hd : Distinct M) :
    newestIn none k (gcRun w ev M) = newestIn none k M ∨
    ev = true ∧ newestIn none k (gcRun w ev M) = none ∧
      ∃ e, newestIn none k M = some e ∧ e.toVal = none := by
  by_cases hdrop : ∃ e, newestIn none k M = some e ∧ ev = true ∧ e.kind ≠ .value ∧ lastKept w M e = true
  · obtain ⟨e, hN, he, hkind, hlast⟩ := hdrop
    obtain ⟨hm, hk, -, hmax⟩ := newestIn_some hN
    refine .inr ⟨he, newestIn_none.mpr ?_, e, hN, toVal_none_of_not_value e hkind⟩
    rintro d hdm ⟨hdk, -⟩
    obtain ⟨hdM, hdkept, hdn⟩ := mem_gcRun.mp hdm
    -- `e` is the oldest kept version and the newest one: a kept `d` of the key is `e` itself
    have h3 := lastKept_iff.mp hlast d hdM (hdk.trans hk.symm) hdkept
    cases distinct_unique hd hdM hm (hdk.trans hk.symm) (Nat.le_antisymm (hmax d hdM hdk rfl) h3)
    exact hdn ⟨he, hkind, hlast⟩
  · refine .inl (newestIn_sublist hd (gcRun_sublist w ev M) fun e hN => ?_)
    have hn := newestIn_some hN
    exact mem_gcRun.mpr ⟨hn.1, by simp [keptBase, isNewest_of hn], fun h => hdrop ⟨e, hN, h⟩⟩

structure Maintained (t t' : Tree) : Prop where
  inv : Inv t'
  sub : ∀ x ∈ t'.comps.flatten, x ∈ t.comps.flatten
  abs : ∀ k, t'.absGet none k = t.absGet none k

theorem Maintained.refl {t : Tree} (h : Inv t) : Maintained t t := ⟨h, fun _ => id, fun _ => rfl⟩

/-- Flush (`Pre` = the active memtable, `S` = the sealed ones, no eviction) and compaction are
    the two instances. -/
theorem gc_block {t t' : Tree} {Pre S Q : List Run} {w : Nat} {ev : Bool}
    (ht : t.comps = Pre ++ (S ++ Q)) (ht' : t'.comps = Pre ++ ([gcRun w ev S.flatten] ++ Q))
    (hev : ev = true → Q = []) (h : Inv t) : Maintained t t' := by
  obtain ⟨ho, hd⟩ := h
  rw [ht] at ho
  have hsub := (gcRun_sublist w ev S.flatten).subset
  have hsl : t'.comps.flatten.Sublist t.comps.flatten := by
    simp only [ht, ht', List.flatten_append, List.flatten_singleton]
    exact (List.Sublist.refl _).append ((gcRun_sublist ..).append (List.Sublist.refl _))
  have ho' : Ordered (Pre ++ ([gcRun w ev S.flatten] ++ Q)) := by
    simp only [ordered_append, List.flatten_append, cross_append_right, List.flatten_singleton] at ho ⊢
    obtain ⟨o1, ⟨-, o3, o4⟩, o5, o6⟩ := ho
    exact ⟨o1, ⟨ordered_singleton _, o3, cross_mono o4 hsub fun _ => id⟩, cross_mono o5 (fun _ => id) hsub, o6⟩
  refine ⟨⟨ht' ▸ ho', hd.sublist hsl⟩, fun x hx => hsl.subset hx, fun k => ?_⟩
  have hdS : Distinct S.flatten := by
    simp only [ht, List.flatten_append, Distinct, List.pairwise_append] at hd
    exact hd.2.1.1
  rw [Tree.absGet, Tree.absGet, ht, ht', newestIn_blocks ho', newestIn_blocks ho, List.flatten_singleton]
  rcases newestIn_gcRun w ev k hdS with hg | ⟨he, hg, e, hM, hval⟩
  · rw [hg]
  · rw [hg, hM, hev he]
    cases newestIn none k Pre.flatten <;> simp [hval]

theorem flush_of_sealed_nil (t : Tree) (w : Nat) (hs : t.sealed = []) : t.flush w = t := by
  simp [Tree.flush, hs]

theorem flush_comps (t : Tree) (w : Nat) (hs : t.sealed ≠ []) :
    (t.flush w).comps = t.active :: gcRun w false t.sealed.flatten :: t.tables := by
  simp [Tree.flush, hs, Tree.comps]

theorem flush_maintained (t : Tree) (w : Nat) (h : Inv t) : Maintained t (t.flush w) := by
  by_cases hs : t.sealed = []
  · rw [flush_of_sealed_nil t w hs]
    exact .refl h
  · exact gc_block (Pre := [t.active]) (S := t.sealed) (Q := t.tables) rfl (flush_comps t w hs)
      (fun he => nomatch he) h

theorem comps_split (t : Tree) (i n : Nat) :
    t.comps = (t.active :: (t.sealed ++ t.tables.take i)) ++
      ((t.tables.drop i).take n ++ t.tables.drop (i + n)) := by
  rw [List.cons_append, List.append_assoc, ← List.drop_drop, List.take_append_drop,
    List.take_append_drop, Tree.comps]

theorem compact_of_invalid (t : Tree) (i n w : Nat) (hv : n = 0 ∨ i + n > t.tables.length) :
    t.compact i n w = t := if_pos hv

theorem compact_comps (t : Tree) (i n w : Nat) (hv : ¬ (n = 0 ∨ i + n > t.tables.length)) :
    (t.compact i n w).comps = (t.active :: (t.sealed ++ t.tables.take i)) ++
      ([gcRun w (i + n = t.tables.length) ((t.tables.drop i).take n).flatten] ++
        t.tables.drop (i + n)) := by
  simp [Tree.compact, hv, Tree.comps]

theorem compact_maintained (t : Tree) (i n w : Nat) (h : Inv t) : Maintained t (t.compact i n w) := by
  by_cases hv : n = 0 ∨ i + n > t.tables.length
  · rw [compact_of_invalid t i n w hv]
    exact .refl h
  · exact gc_block (comps_split t i n) (compact_comps t i n w hv)
      (fun he => List.drop_eq_nil_of_le (Nat.le_of_eq (of_decide_eq_true he).symm)) h

theorem flush_inv (t : Tree) (w : Nat) (h : Inv t) : Inv (t.flush w) := (flush_maintained t w h).inv

theorem flush_abs (t : Tree) (w : Nat) (h : Inv t) (k : Key) :
    (t.flush w).absGet none k = t.absGet none k := (flush_maintained t w h).abs k

theorem compact_inv (t : Tree) (i n w : Nat) (h : Inv t) : Inv (t.compact i n w) :=
  (compact_maintained t i n w h).inv

theorem compact_abs (t : Tree) (i n w : Nat) (h : Inv t) (k : Key) :
    (t.compact i n w).absGet none k = t.absGet none k := (compact_maintained t i n w h).abs k

theorem newestIn_singleton (inst : Option Nat) (k : Key) (e : VEntry) :
    newestIn inst k [e] = if e.key = k ∧ visible inst e then some e else none := rfl

/-- A block `R` in front of everything `t` holds, and newer per key than all of it.  A single write
    puts `R = [e]` into the memtable, an ingestion makes `R` the first table: where the block stands
    among the components is the caller's `ho`. -/
theorem push_inv_abs {t t' : Tree} {R : Run} (h : Inv t) (hf : t'.comps.flatten = R ++ t.comps.flatten)
    (ho : Ordered t'.comps) (hR : Distinct R) (hc : Cross R t.comps.flatten) :
    Inv t' ∧ ∀ inst k, t'.absGet inst k =
      ((newestIn inst k R).or (newestIn inst k t.comps.flatten)).bind VEntry.toVal :=
  ⟨⟨ho, hf ▸ List.pairwise_append.mpr ⟨hR, h.distinct, fun a ha b hb hk => Nat.ne_of_gt (hc a ha b hb hk.symm)⟩⟩,
    fun inst k => by rw [Tree.absGet, hf, newestIn_append hc]⟩

theorem apply_flatten (t : Tree) (e : VEntry) :
    (t.apply e).comps.flatten = e :: t.comps.flatten := rfl

def FreshFor (t : Tree) (e : VEntry) : Prop :=
  ∀ d ∈ t.comps.flatten, d.key = e.key → d.seqno < e.seqno

theorem apply_inv_abs (t : Tree) (e : VEntry) (h : Inv t) (hf : FreshFor t e) :
    Inv (t.apply e) ∧
      ∀ k, (t.apply e).absGet none k = if e.key = k then e.toVal else t.absGet none k := by
  have hc : Cross [e] t.comps.flatten := fun x hx d hd hk => by
    cases List.mem_singleton.mp hx; exact hf d hd hk
  obtain ⟨hA, hL⟩ := ordered_cons.mp h.ordered
  obtain ⟨hi, ha⟩ := push_inv_abs (t' := t.apply e) (R := [e]) h (apply_flatten t e)
    (ordered_cons.mpr ⟨cross_append_left.mpr ⟨(cross_append_right.mp hc).2, hA⟩, hL⟩)
    (List.pairwise_singleton _ _) hc
  refine ⟨hi, fun k => ?_⟩
  rw [ha, newestIn_singleton]
  by_cases hk : e.key = k <;> simp [hk, visible, Tree.absGet]

theorem apply_inv (t : Tree) (e : VEntry) (h : Inv t) (hf : FreshFor t e) : Inv (t.apply e) :=
  (apply_inv_abs t e h hf).1

theorem apply_abs (t : Tree) (e : VEntry) (h : Inv t) (hf : FreshFor t e) (k : Key) :
    (t.apply e).absGet none k = if e.key = k then e.toVal else t.absGet none k :=
  (apply_inv_abs t e h hf).2 k

theorem applyR_comps (t : Tree) (e : VEntry) : (t.applyR e).comps =
    (e :: t.active.filter fun x => !(decide (x.key = e.key) && decide (x.seqno = e.seqno))) ::
      (t.sealed ++ t.tables) := rfl

/-- `applyR` is `apply` on the memtable without the entry `e` replaces.  `≤` in the memtable: inside
    a batch it already holds entries at the batch's seqno, and the one equal to `e` in key and seqno
    is the one removed. -/
theorem applyR_inv_abs (t : Tree) (e : VEntry) (h : Inv t)
    (ha : ∀ d ∈ t.active, d.key = e.key → d.seqno ≤ e.seqno)
    (hl : ∀ d ∈ (t.sealed ++ t.tables).flatten, d.key = e.key → d.seqno < e.seqno) :
    Inv (t.applyR e) ∧
      ∀ k, (t.applyR e).absGet none k = if e.key = k then e.toVal else t.absGet none k := by
  obtain ⟨hc, ho'⟩ := ordered_cons.mp h.ordered
  have hf : ∀ x ∈ t.active.filter (fun x => !(decide (x.key = e.key) && decide (x.seqno = e.seqno))),
      x ∈ t.active ∧ (x.key = e.key → x.seqno < e.seqno) := fun x hx => by
    obtain ⟨hm, hp⟩ := List.mem_filter.mp hx
    refine ⟨hm, fun hk => Nat.lt_of_le_of_ne (ha x hm hk) fun hs => ?_⟩
    simp [hk, hs] at hp
  have hc' := cross_mono hc (fun x hx => (hf x hx).1) fun _ => id
  obtain ⟨hi, hab⟩ := apply_inv_abs { t with active := t.active.filter _ } e
    ⟨ordered_cons.mpr ⟨hc', ho'⟩, h.distinct.sublist (List.filter_sublist.append (List.Sublist.refl _))⟩
    fun d hd hk => (List.mem_append.mp hd).elim (fun hd => (hf d hd).2 hk) (fun hd => hl d hd hk)
  refine ⟨hi, fun k => (hab k).trans ?_⟩
  by_cases hk : e.key = k
  · rw [if_pos hk, if_pos hk]
  · rw [if_neg hk, if_neg hk, Tree.absGet, Tree.absGet, Tree.comps, Tree.comps, List.flatten_cons,
      List.flatten_cons, newestIn_append hc', newestIn_append hc,
      newestIn_sublist (h.distinct.sublist (List.sublist_append_left ..)) List.filter_sublist]
    -- the filter removes versions of `e.key` only
    intro x hx
    obtain ⟨hm, hxk, -⟩ := newestIn_mem hx
    exact List.mem_filter.mpr ⟨hm, by simp [hxk, Ne.symm hk]⟩

theorem applyR_eq_apply (t : Tree) (e : VEntry) (h : FreshFor t e) : t.applyR e = t.apply e := by
  rw [Tree.applyR, Tree.apply, List.filter_eq_self.mpr]
  intro d hd
  by_cases hk : d.key = e.key
  · simp [Nat.ne_of_lt (h d (List.mem_append_left _ hd) hk)]
  · simp [hk]

theorem rotate_flatten (t : Tree) : t.rotate.comps.flatten = t.comps.flatten := by
  rw [Tree.rotate]
  split
  · rfl
  · simp [Tree.comps]

theorem rotate_inv (t : Tree) (h : Inv t) : Inv t.rotate := by
  refine ⟨?_, by rw [rotate_flatten]; exact h.distinct⟩
  have ho := h.ordered
  rw [Tree.rotate]
  split
  · exact ho
  · exact ordered_cons.mpr ⟨fun _ h => (nomatch h), ho⟩

theorem rotate_abs (t : Tree) (inst : Option Nat) (k : Key) : t.rotate.absGet inst k = t.absGet inst k := by
  simp only [Tree.absGet, rotate_flatten]

theorem rotate_maintained (t : Tree) (h : Inv t) : Maintained t t.rotate :=
  ⟨rotate_inv t h, fun _ => (rotate_flatten t ▸ ·), fun k => rotate_abs t none k⟩

theorem rotate_active (t : Tree) : t.rotate.active = [] := by
  rw [Tree.rotate]
  split
  · rename_i h; exact List.isEmpty_iff.mp h
  · rfl

theorem flush_active (t : Tree) (w : Nat) : (t.flush w).active = t.active := by
  rw [Tree.flush]
  split <;> rfl

theorem flush_sealed (t : Tree) (w : Nat) : (t.flush w).sealed = [] := by
  rw [Tree.flush]
  split
  · rename_i h; exact List.isEmpty_iff.mp h
  · rfl

theorem rotate_flush_comps (t : Tree) (w : Nat) :
    (t.rotate.flush w).comps = [] :: (t.rotate.flush w).tables := by
  rw [Tree.comps, flush_active, rotate_active, flush_sealed, List.nil_append]

theorem ingest_comps (t : Tree) (g : Nat) (items : List (Key × Option Val)) (hne : items ≠ []) :
    (t.ingest g items).comps =
      [] :: (items.map fun x => itemEntry g x.1 x.2) :: (t.rotate.flush 0).tables := by
  simp [Tree.ingest, hne, Tree.comps, flush_active, rotate_active, flush_sealed]

end Fjall.Mvcc
