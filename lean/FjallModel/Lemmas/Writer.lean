/-
  The dirty flag is set by every append and cleared only together with a flush that emptied the
  buffer, hence `Writer.Inv` between operations; from it, what an Ok from `persist` means
  (`persist_ok`) and the few ways a database-level operation can end (`JDb.Step`).
-/
import FjallModel.Journal.Writer
namespace Fjall.Journal
open Fjall

def Writer.Inv (w : Writer) : Prop := w.dirty = false → w.buf = []

theorem sysWrite_dirty {w w' : Writer} {d : Bytes} {r : Option Nat} (h : w.sysWrite d = (w', r)) :
    w'.dirty = w.dirty := by
  rw [← congrArg (·.1.dirty) h]
  unfold Writer.sysWrite
  cases w.failing
  · rfl
  · cases w.failAt with
    | none => rfl
    | some n => cases w.shortK with
      | none => rfl
      | some k => simp only [↓reduceIte]; split <;> rfl

theorem flushBuf_dirty (w : Writer) (fuel : Nat) : (w.flushBuf fuel).1.dirty = w.dirty := by
  -- the leaves of `flushBuf` (and of `rawWriteAll`): out of fuel, nothing left, write error, zero bytes taken,
  -- `k` bytes taken and on with the rest
  fun_induction Writer.flushBuf w fuel with
  | case1 | case2 => rfl
  | case3 _ _ _ _ hs | case4 _ _ _ _ hs => exact sysWrite_dirty hs
  | case5 w _ _ w' _ _ hs ih => exact ih.trans (sysWrite_dirty hs : w'.dirty = w.dirty)

theorem rawWriteAll_dirty (w : Writer) (d : Bytes) (fuel : Nat) : (w.rawWriteAll d fuel).1.dirty = w.dirty := by
  fun_induction Writer.rawWriteAll w d fuel with
  | case1 | case2 => rfl
  | case3 _ _ _ _ _ hs | case4 _ _ _ _ _ hs => exact sysWrite_dirty hs
  | case5 _ _ _ _ _ _ _ hs ih => exact ih.trans (sysWrite_dirty hs)

theorem flushBuf_ok_empty (w : Writer) (fuel : Nat) (h : (w.flushBuf fuel).2 = .ok) :
    (w.flushBuf fuel).1.buf = [] := by
  fun_induction Writer.flushBuf w fuel with
  | case1 | case3 | case4 => cases h
  | case2 _ _ he => exact List.isEmpty_iff.mp he
  | case5 _ _ _ _ _ _ _ ih => exact ih h

theorem writeAll_dirty (w : Writer) (d : Bytes) : (w.writeAll d).1.dirty = w.dirty := by
  unfold Writer.writeAll
  split
  rename_i w1 r1 h1
  have : w1.dirty = w.dirty := by
    rw [← congrArg (·.1.dirty) h1]; split
    · exact flushBuf_dirty ..
    · rfl
  split
  · exact this
  · split
    · exact (rawWriteAll_dirty ..).trans this
    · exact this

theorem writePieces_dirty (w : Writer) (ps : List Bytes) : (w.writePieces ps).1.dirty = true := by
  unfold Writer.writePieces
  generalize hacc : (({ w with dirty := true }, IoRes.ok) : Writer × IoRes) = acc
  have h : acc.1.dirty = true := hacc ▸ rfl
  clear hacc
  induction ps generalizing acc with
  | nil => exact h
  | cons p ps ih =>
    apply ih
    dsimp only
    split
    · exact h
    · exact (writeAll_dirty ..).trans h

theorem writePieces_inv (w : Writer) (ps : List Bytes) : (w.writePieces ps).1.Inv :=
  fun hd => absurd ((writePieces_dirty w ps).symm.trans hd) nofun

theorem sysSync_spec (w : Writer) (data : Bool) :
    (w.sysSync data).1.buf = w.buf ∧ (w.sysSync data).1.dirty = w.dirty ∧
      ((w.sysSync data).2 = .ok → (w.sysSync data).1.synced = (w.sysSync data).1.os.length) := by
  unfold Writer.sysSync
  cases w.failing
  · exact ⟨rfl, rfl, fun _ => rfl⟩
  · exact ⟨rfl, rfl, nofun⟩

theorem persist_stages (w : Writer) (m : PersistMode) (hinv : w.Inv) :
    (w.persist m).2 = .err ∨ ∃ w2, w2.buf = [] ∧ w2.dirty = false ∧
      w.persist m = match m with
        | .buffer => (w2, .ok)
        | .syncData => w2.sysSync true
        | .syncAll => w2.sysSync false := by
  unfold Writer.persist
  cases hd : w.dirty
  · exact .inr ⟨w, hinv hd, hd, by cases m <;> rfl⟩
  · have hb := flushBuf_ok_empty w (w.buf.length + 1)
    revert hb
    cases w.flushBuf (w.buf.length + 1) with
    | mk w1 r1 =>
      cases r1 with
      | err => exact fun _ => .inl rfl
      | ok => exact fun hb => .inr ⟨{ w1 with dirty := false }, hb rfl, rfl, by cases m <;> rfl⟩

theorem persist_ok (w : Writer) (m : PersistMode) (hinv : w.Inv) (h : (w.persist m).2 = .ok) :
    (w.persist m).1.buf = [] ∧ (w.persist m).1.dirty = false ∧
      (m ≠ .buffer → (w.persist m).1.synced = (w.persist m).1.os.length) := by
  rcases persist_stages w m hinv with he | ⟨w2, hb, hd, hp⟩
  · cases he.symm.trans h
  · rw [hp] at h ⊢
    cases m with
    | buffer => exact ⟨hb, hd, fun hm => absurd rfl hm⟩
    | syncData | syncAll =>
      exact ⟨(sysSync_spec w2 _).1.trans hb, (sysSync_spec w2 _).2.1.trans hd,
        fun _ => (sysSync_spec w2 _).2.2 h⟩

theorem persist_inv (w : Writer) (m : PersistMode) (hinv : w.Inv) (h : (w.persist m).2 = .ok) :
    (w.persist m).1.Inv :=
  fun _ => (persist_ok w m hinv h).1

def JOp.isEmptyBatch : JOp → Bool
  | .batch pieces _ => pieces.isEmpty
  | _ => false

/-- an empty batch is Ok even then: `WriteBatch::commit` returns before it looks at the poison flag -/
theorem jstep_of_poisoned (db : JDb) (op : JOp) (hp : db.poisoned = true) :
    jstep db op = (db, if op.isEmptyBatch then .ok else .poisoned) := by
  obtain ⟨_, _, _, _, _, _, _⟩ := db
  cases hp
  cases op with
  | batch ps _ => cases ps <;> rfl
  | _ => rfl

/-- How an operation on a database that is not poisoned can end. In `done` the invariant is an
    implication because an append establishes it while a bare `Database::persist` or an empty batch
    only keeps it; `rotated` is the whole state after a successful `Writer::rotate`. -/
inductive JDb.Step (db : JDb) : JOp → JDb × JRes → Prop
  | failed (op w' r) : r ≠ .ok → Step db op ({ db with w := w', poisoned := true }, r)
  | done (op w') : op ≠ .rotate → (db.w.Inv → w'.Inv) → Step db op ({ db with w := w' }, .ok)
  | rotated (w') : db.w.persist .syncAll = (w', .ok) → Step db .rotate
      ({ db with w := { w' with os := [], synced := 0, calls := w'.calls + 2,
                                 trace := w'.trace ++ [.create, .ftruncate 67108864, .fsync true] ++
                                   (if db.rotateSyncsFolder then [.dirsync] else []) },
                 sealed := db.sealed ++ [(w'.os, w'.synced)],
                 created := db.created + 1,
                 dirDurable := if db.rotateSyncsFolder then db.created + 1 else db.dirDurable }, .ok)

theorem jstep_step (db : JDb) (op : JOp) (hp : db.poisoned = false) : db.Step op (jstep db op) := by
  have persists (op : JOp) (hop : op ≠ .rotate) (w : Writer) (hw : db.w.Inv → w.Inv) (m : PersistMode)
      (r : JRes) (hr : r ≠ .ok) :
      db.Step op (match w.persist m with
        | (w', .err) => ({ db with w := w', poisoned := true }, r)
        | (w', .ok) => ({ db with w := w' }, .ok)) := by
    have hi := persist_inv w m
    generalize w.persist m = x at hi
    obtain ⟨w', _ | _⟩ := x
    · exact .done _ _ hop fun h => hi (hw h) rfl
    · exact .failed _ _ _ hr
  have appends (op : JOp) (ps : List Bytes) (k : Writer → JDb × JRes) (hk : ∀ w, w.Inv → db.Step op (k w)) :
      db.Step op (match db.w.writePieces ps with
        | (w, .err) => ({ db with w := w, poisoned := true }, .io)
        | (w, .ok) => k w) := by
    have hi := writePieces_inv db.w ps
    generalize db.w.writePieces ps = x at hi
    obtain ⟨w, _ | _⟩ := x
    · exact hk w hi
    · exact .failed _ _ _ nofun
  -- with the fields of `db` laid open every branch of `jstep` reduces by computation
  obtain ⟨w0, _, manual, _, _, _, _⟩ := db
  cases hp
  unfold jstep
  cases op with
  | single ps | clear ps =>
    refine appends _ ps _ fun w hw => ?_
    cases manual
    · exact persists _ (by nofun) w (fun _ => hw) .buffer .io nofun
    · exact .done _ w (by nofun) fun _ => hw
  | batch ps dur =>
    cases ps with
    | nil => exact .done _ w0 (by nofun) id
    | cons p ps =>
      refine appends _ (p :: ps) _ fun w hw => ?_
      cases dur with
      | none => exact .done _ w (by nofun) fun _ => hw
      | some m => exact persists _ (by nofun) w (fun _ => hw) m .poisoned nofun
  | persist m => exact persists _ (by nofun) w0 id m .poisoned nofun
  | rotate =>
    cases hq : Writer.persist w0 .syncAll with
    | mk w' r' => cases r' with
      | err => exact .failed _ _ _ nofun
      | ok => exact .rotated w' hq

theorem jstep_cases (db : JDb) (op : JOp) :
    db.poisoned = true ∧ jstep db op = (db, if op.isEmptyBatch then .ok else .poisoned) ∨
      db.poisoned = false ∧ db.Step op (jstep db op) := by
  cases hp : db.poisoned
  · exact .inr ⟨rfl, jstep_step db op hp⟩
  · exact .inl ⟨rfl, jstep_of_poisoned db op hp⟩

theorem jstep_error_poisons (db : JDb) (op : JOp) (h : (jstep db op).2 ≠ .ok) :
    (jstep db op).1.poisoned = true := by
  obtain ⟨hp, e⟩ | ⟨_, hs⟩ := jstep_cases db op
  · rw [e]; exact hp
  generalize jstep db op = x at hs h ⊢
  cases hs with
  | failed => rfl
  | done | rotated => exact absurd rfl h

theorem jrun_cons (db : JDb) (o : JOp) (os : List JOp) :
    jrun db (o :: os) =
      ((jrun (jstep db o).1 os).1, (jstep db o).2 :: (jrun (jstep db o).1 os).2) := rfl

theorem jrun_of_poisoned (db : JDb) (ops : List JOp) (hp : db.poisoned = true) :
    jrun db ops = (db, ops.map fun op => if op.isEmptyBatch then .ok else .poisoned) := by
  induction ops with
  | nil => rfl
  | cons o os ih => rw [jrun_cons, jstep_of_poisoned db o hp, ih]; rfl

/-- fail-stop: whatever follows an operation that reported an error runs on a poisoned database -/
theorem jrun_after_error (db : JDb) (ops : List JOp) (i : Nat) (he : (jrun db ops).2[i]? ≠ some .ok) :
    (jrun db ops).2.drop (i + 1) =
      (ops.drop (i + 1)).map fun op => if op.isEmptyBatch then .ok else .poisoned := by
  induction ops generalizing db i with
  | nil => rfl
  | cons o os ih =>
    rw [jrun_cons] at he ⊢
    cases i with
    | zero => rw [jrun_of_poisoned _ os (jstep_error_poisons db o fun h => he (congrArg some h))]; rfl
    | succ i => exact ih _ i he

end Fjall.Journal
