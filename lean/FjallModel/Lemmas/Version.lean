import FjallModel.Version
namespace Fjall.Version
open Fjall

theorem FormatVersion.ofByte_eq_v3 (v : UInt8) : FormatVersion.ofByte v = some .v3 ↔ v = 3 := by
  constructor
  · -- the four leaves: byte 1, 2, 3, any other
    fun_cases FormatVersion.ofByte v with
    | case1 | case2 | case4 => nofun
    | case3 _ _ h3 => exact fun _ => h3
  · rintro rfl; rfl

theorem parseFileHeader_eq_some (bytes : Bytes) (ver : FormatVersion) :
    parseFileHeader bytes = some ver ↔
      ∃ v r, bytes = markerMagic ++ v :: r ∧ FormatVersion.ofByte v = some ver := by
  constructor
  · -- the first leaf: four bytes at least, the first three the magic
    fun_cases parseFileHeader bytes with
    | case1 a b c v r hm => exact fun h => ⟨v, r, congrArg (· ++ v :: r) hm, h⟩
    | case2 | case3 => nofun
  · rintro ⟨v, r, rfl, h⟩
    exact h

theorem checkVersion_eq_ok (bytes : Bytes) :
    checkVersion bytes = .ok () ↔ parseFileHeader bytes = some .v3 := by
  unfold checkVersion
  cases parseFileHeader bytes with
  | none => exact ⟨nofun, nofun⟩
  | some v => by_cases h3 : v = .v3 <;> simp [h3]

end Fjall.Version
