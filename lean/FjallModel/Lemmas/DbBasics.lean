/-
  The database as a list of keyspaces found by id, and association lists keyed by keyspace id
  (`lookup_byId`; `pbOf` is the one recovery takes of the persisted seqnos); what `write`, `flushSealed`, `flush`
  and `createKs` do to the parts of the state, and which operations leave `absOf` alone; the eviction test as
  statements (`flushedUpTo_iff`, `evictable_iff`).
-/
import FjallModel.Lemmas.DbLog
namespace Fjall.Db
open Fjall Fjall.Spec

theorem find_map_id (kss : List KsL) (f : KsL → KsL) (hf : ∀ k, (f k).id = k.id) (id : KsId) :
    (kss.map f).find? (·.id = id) = (kss.find? (·.id = id)).map f := by
  simp only [List.find?_map, Function.comp_def, hf]

theorem find_of_mem (kss : List KsL) (hnd : (kss.map (·.id)).Nodup) (k : KsL) (hk : k ∈ kss) :
    kss.find? (·.id = k.id) = some k := by
  induction kss with
  | nil => cases hk
  | cons a r ih =>
    obtain ⟨ha, hr⟩ := List.nodup_cons.mp hnd
    rw [List.find?_cons]
    rcases List.mem_cons.mp hk with rfl | hk
    · simp
    · have : a.id ≠ k.id := fun e => ha (List.mem_map.mpr ⟨k, hk, e.symm⟩)
      simp only [this, decide_false]
      exact ih hr hk

theorem find_eq_some {db : DbL} {id : KsId} {k : KsL} (h : db.find id = some k) : k ∈ db.kss ∧ k.id = id :=
  ⟨List.mem_of_find?_eq_some h, by simpa using List.find?_some h⟩

/-- serves both tables keyed by keyspace id that recovery builds: the persisted seqnos taken before
    replay and the recomputed watermarks -/
theorem lookup_byId (l : List KsL) (g : KsL → Option Nat) (hnd : (l.map (·.id)).Nodup) (k : KsL) (hk : k ∈ l) :
    (l.filterMap fun k => (g k).map fun p => (k.id, p)).lookup k.id = g k := by
  induction l with
  | nil => cases hk
  | cons a r ih =>
    obtain ⟨ha, hr⟩ := List.nodup_cons.mp hnd
    rw [List.filterMap_cons]
    rcases List.mem_cons.mp hk with rfl | hk
    · cases hg : g k with
      | some p => simp
      | none =>
        rw [Option.map_none, List.lookup_eq_none_iff]
        intro p hp
        obtain ⟨k', hk', e⟩ := List.mem_filterMap.mp hp
        obtain ⟨_, _, rfl⟩ := Option.map_eq_some_iff.mp e
        simpa using fun e => ha (List.mem_map.mpr ⟨k', hk', e.symm⟩)
    · cases g a with
      | none => exact ih hr hk
      | some p => exact (lookup_cons_ne fun e => ha (List.mem_map.mpr ⟨k, hk, e⟩)).trans (ih hr hk)

theorem map_ids (l : List KsL) (f : KsL → KsL) (hid : ∀ k, (f k).id = k.id) :
    (l.map f).map (·.id) = l.map (·.id) := by
  rw [List.map_map]; exact List.map_congr_left fun k _ => hid k

theorem updKs_kss (db : DbL) (id : KsId) (f : KsL → KsL) :
    (db.updKs id f).kss = db.kss.map fun k => if k.id = id then f k else k := rfl

theorem flushSealed_of_empty (k : KsL) (h : k.sealedMem = []) : k.flushSealed = k := by
  cases k; simp_all [KsL.flushSealed, maxSeqno, optMax_none]

/-- the guard of `DbL.flushSealed` only decides whether a seqno is drawn -/
theorem flushSealed_kss (db : DbL) (id : KsId) : (db.flushSealed id).kss = (db.updKs id KsL.flushSealed).kss := by
  unfold DbL.flushSealed; split
  · rfl
  · rename_i hany
    rw [updKs_kss]
    refine (List.map_id'' (fun _ => rfl) _).symm.trans (List.map_congr_left fun k hk => ?_)
    split
    · rename_i hid
      refine (flushSealed_of_empty k (Classical.byContradiction fun hne => hany ?_)).symm
      exact List.any_eq_true.mpr ⟨k, hk, by simp [hid, hne]⟩
    · rfl

theorem flush_mem_empty (db : DbL) (id : KsId) :
    ∀ k ∈ (db.flush id).kss, k.id = id → k.sealedMem = [] ∧ k.mem = [] := by
  rw [DbL.flush, flushSealed_kss, updKs_kss, DbL.rotate, updKs_kss, List.map_map, List.forall_mem_map]
  intro k _ hid
  by_cases hk : k.id = id
  · simp only [Function.comp, hk, if_true, sealMem_eq]; exact ⟨rfl, rfl⟩
  · simp only [Function.comp, hk, if_false] at hid

theorem write_kss (db : DbL) (items : List (KsId × LOp)) :
    (db.write items).kss = db.kss.map fun k =>
      replayKs k (items.map fun (ks, op) => (⟨db.seqno, ks, op, false⟩ : Rec)) := by
  simp only [DbL.write, foldl_replayRec]

theorem write_active (db : DbL) (items : List (KsId × LOp)) :
    (db.write items).active.recs = db.active.recs ++ items.map fun (ks, op) => (⟨db.seqno, ks, op, false⟩ : Rec) := rfl

theorem write_misc (db : DbL) (items : List (KsId × LOp)) :
    (db.write items).sealed = db.sealed ∧ (db.write items).nextKsId = db.nextKsId := ⟨rfl, rfl⟩

theorem write_absOf (db : DbL) (items : List (KsId × LOp)) (id : KsId) :
    (db.write items).absOf id = (db.find id).elim [] fun k => applyAll k.abs
      (opsOf ((items.map fun (ks, op) => (⟨db.seqno, ks, op, false⟩ : Rec)).filter fun r => r.ks = k.id)) := by
  simp only [DbL.absOf, DbL.find, write_kss]
  rw [find_map_id _ _ (fun k => replayKs_id k _)]
  cases db.kss.find? (·.id = id) with
  | none => rfl
  | some k => exact replayKs_abs k _

theorem maintenance_absOf (db : DbL) (id : KsId) : db.maintenance.absOf id = db.absOf id := rfl

theorem rotateJournal_absOf (db : DbL) (id : KsId) : db.rotateJournal.absOf id = db.absOf id := rfl

theorem createKs_new (db : DbL) (name : String) (hnew : ∀ k ∈ db.kss, k.name ≠ name) :
    db.createKs name =
      ({ db with kss := db.kss ++ [{ id := db.nextKsId, name := name }], names := db.names ++ [(db.nextKsId, name)],
                 nextKsId := db.nextKsId + 1, seqno := db.seqno + 1 }, db.nextKsId) := by
  have : db.kss.find? (·.name = name) = none := List.find?_eq_none.mpr fun k hk => by simpa using hnew k hk
  simp only [DbL.createKs, this]

/-- a keyspace created under a new name is empty, provided the next id is not in use -/
theorem createKs_new_absOf (db : DbL) (name : String) (hnew : ∀ k ∈ db.kss, k.name ≠ name)
    (hid : ∀ k ∈ db.kss, k.id ≠ db.nextKsId) : (db.createKs name).1.absOf (db.createKs name).2 = [] := by
  have : db.kss.find? (·.id = db.nextKsId) = none := List.find?_eq_none.mpr fun k hk => by simpa using hid k hk
  rw [createKs_new db name hnew]
  simp [DbL.absOf, DbL.find, List.find?_append, this, KsL.abs, applyAll]

theorem flushedUpTo_iff (k : KsL) (lsn : Nat) :
    k.flushedUpTo lsn = true ↔ (∃ p, k.persisted = some p ∧ lsn ≤ p) ∨ (k.sealedMem = [] ∧ k.mem = []) := by
  cases hp : k.persisted <;> simp [KsL.flushedUpTo, hp]

theorem evictable_iff (db : DbL) (j : JournalL) :
    db.evictable j = true ↔
      ∀ id lsn, (id, lsn) ∈ j.watermarks → ∀ k, db.find id = some k → k.flushedUpTo lsn = true := by
  simp only [DbL.evictable, List.all_eq_true, Prod.forall]
  refine forall_congr' fun id => forall_congr' fun lsn => imp_congr_right fun _ => ?_
  cases db.find id <;> simp

def pbOf (db : DbL) : List (KsId × Nat) := db.kss.filterMap fun k => k.persisted.map fun p => (k.id, p)

theorem lookup_pb (db : DbL) (hnd : (db.kss.map (·.id)).Nodup) (k : KsL) (hk : k ∈ db.kss) :
    (pbOf db).lookup k.id = k.persisted := lookup_byId db.kss (·.persisted) hnd k hk

end Fjall.Db
