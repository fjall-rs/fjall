/-
  Reachable states.  The operations of a database (`DOp`, `dstep`, `drun`) are defined here, with
  `DOp.WF`, `ProgWF` for what the code refuses or the driver checks.  `DInv` ties the keyspaces to the
  journal files: every keyspace is covered by its records in the surviving journals (`Cov`), the active
  journal is newer than the sealed ones, and the eviction watermarks of a sealed journal cover whatever
  of it is still only in memory.  Every operation keeps it (`map_inv`, and `upd_inv` for those that
  update one keyspace in place), and under it `recover` gives every keyspace back (`recoverKs_spec`,
  `recover_abs`).
-/
import FjallModel.Lemmas.DbSealed
namespace Fjall.Db
open Fjall Fjall.Spec

inductive DOp
  | createKs (name : String)
  | deleteKs (id : KsId)
  | write (items : List (KsId × LOp))
  | rotate (id : KsId)
  | flushSealed (id : KsId)
  | lowerPersisted (id : KsId) (v : Option Nat)
  | ingest (id : KsId) (items : List (Key × Option Val))
  | rotateJournal
  | maintenance
  /-- clean close + open, or process crash + open: with the default journal persist mode the
      files are the same in both cases -/
  | reopen
  deriving Repr, DecidableEq

def dstep (db : DbL) : DOp → DbL
  | .createKs n => (db.createKs n).1
  | .deleteKs id => db.deleteKs id
  | .write items => db.write items
  | .rotate id => db.rotate id
  | .flushSealed id => db.flushSealed id
  | .lowerPersisted id v => db.lowerPersisted id v
  | .ingest id items => db.ingest id items
  | .rotateJournal => db.rotateJournal
  | .maintenance => db.maintenance
  | .reopen => db.recover

/-- writes go through live handles only (deleted handles refuse writes); the observed highest
    persisted seqno respects what the table files physically guarantee (`KsL.physOk`);
    bulk ingestion carries values only (ingested tombstones: known finding F13) -/
def DOp.WF (db : DbL) : DOp → Prop
  | .write items => ∀ it ∈ items, ∃ k ∈ db.kss, k.id = it.1
  | .lowerPersisted id v => ∀ k ∈ db.kss, k.id = id → (k.lowerPersisted v).physOk = true
  | .ingest _ items => ∀ it ∈ items, it.2.isSome = true
  | _ => True

instance (db : DbL) (op : DOp) : Decidable (op.WF db) := by
  cases op <;> simp only [DOp.WF] <;> infer_instance

def allRecs (db : DbL) : List Rec := db.sealed.flatMap (·.recs) ++ db.active.recs

theorem allRecs_map (db : DbL) (f : Rec → Nat) :
    (allRecs db).map f = (db.sealed.flatMap fun j => j.recs.map f) ++ db.active.recs.map f := by
  rw [allRecs, List.map_append, List.map_flatMap]

theorem recover_nextKsId (db : DbL) :
    (∀ k ∈ db.kss, k.id < db.recover.nextKsId) ∧ (∀ r ∈ allRecs db, r.ks < db.recover.nextKsId) := by
  have h : ∀ x ∈ db.kss.map (·.id) ++ (allRecs db).map (·.ks), x < db.recover.nextKsId :=
    fun x hx => Nat.lt_succ_of_le (le_foldl_max 1 (by rwa [List.append_assoc, ← allRecs_map]))
  exact ⟨fun k hk => h k.id (List.mem_append_left _ (List.mem_map_of_mem hk)),
    fun r hr => h r.ks (List.mem_append_right _ (List.mem_map_of_mem hr))⟩

theorem recover_seqno (db : DbL) :
    (∀ k ∈ db.recover.kss, ∀ t ∈ k.tables ++ k.sealedMem ++ k.mem, t.seqno < db.recover.seqno) ∧
    (∀ r ∈ allRecs db, r.seqno < db.recover.seqno) := by
  simp only [DbL.recover]
  generalize List.foldl replayRec _ _ = kss2
  have key : ∀ (l : List Nat), ∀ x ∈ l, x < if (!l.isEmpty) = true then l.foldl max 0 + 1 else 0 := fun l x hx => by
    rw [if_pos (by cases l with | nil => cases hx | cons _ _ => rfl)]
    exact Nat.lt_succ_of_le (le_foldl_max 0 hx)
  refine ⟨fun k hk t ht => key _ _ ?_, fun r hr => key _ _ ?_⟩ <;> rw [List.append_assoc]
  · exact List.mem_append_left _ (List.mem_flatMap.mpr ⟨k, hk, List.mem_map_of_mem ht⟩)
  · exact List.mem_append_right _ (allRecs_map db (·.seqno) ▸ List.mem_map_of_mem hr)

def recsOf (db : DbL) (id : KsId) : List Rec := (allRecs db).filter fun r => r.ks = id

structure DInv (db : DbL) : Prop where
  nodup : (db.kss.map (·.id)).Nodup
  idsBelow : ∀ k ∈ db.kss, k.id < db.nextKsId
  recsBelow : ∀ r ∈ allRecs db, r.ks < db.nextKsId
  seqJ : ∀ r ∈ allRecs db, r.seqno < db.seqno
  seqT : ∀ k ∈ db.kss, ∀ t ∈ k.tables, t.seqno < db.seqno
  cov : ∀ k ∈ db.kss, Cov k (recsOf db k.id)
  /-- the active journal file is strictly newer than the sealed ones (a batch never spans two files:
      rotation and writes both hold the journal lock) -/
  order : ∀ x ∈ db.sealed.flatMap (·.recs), ∀ y ∈ db.active.recs, x.seqno < y.seqno
  wmOk : ∀ j ∈ db.sealed, ∀ k ∈ db.kss, ∀ r ∈ j.recs, r.ks = k.id → r ∈ k.sealedMem ++ k.mem →
    ∃ lsn, (k.id, lsn) ∈ j.watermarks ∧ r.seqno ≤ lsn

theorem init_dinv : DInv {} where
  nodup := List.Pairwise.nil
  idsBelow _ h := absurd h List.not_mem_nil
  recsBelow _ h := absurd h List.not_mem_nil
  seqJ _ h := absurd h List.not_mem_nil
  seqT _ h := absurd h List.not_mem_nil
  cov _ h := absurd h List.not_mem_nil
  order _ h := absurd h List.not_mem_nil
  wmOk _ h := absurd h List.not_mem_nil

theorem recsOf_ks (db : DbL) (id : KsId) : ∀ r ∈ recsOf db id, r.ks = id :=
  fun _ hr => of_decide_eq_true (List.mem_filter.mp hr).2

theorem recsOf_mem (db : DbL) (id : KsId) (r : Rec) (h : r ∈ recsOf db id) : r ∈ allRecs db :=
  (List.mem_filter.mp h).1

theorem mem_allRecs_sealed {db : DbL} {j : JournalL} {r : Rec} (hj : j ∈ db.sealed) (hr : r ∈ j.recs) :
    r ∈ allRecs db := List.mem_append_left _ (List.mem_flatMap.mpr ⟨j, hj, hr⟩)

theorem DInv.seqM {db : DbL} (h : DInv db) {k : KsL} (hk : k ∈ db.kss) : ∀ x ∈ k.sealedMem ++ k.mem, x.seqno < db.seqno :=
  fun x hx => h.seqJ x (recsOf_mem db _ x ((h.cov k hk).mem_sub x hx))

theorem map_inv {db db' : DbL} (f : KsL → KsL) (new : List Rec) (h : DInv db)
    (hkss : db'.kss = db.kss.map f) (hid : ∀ k, (f k).id = k.id) (hnext : db'.nextKsId = db.nextKsId)
    (hsealed : db'.sealed = db.sealed) (hact : db'.active.recs = db.active.recs ++ new)
    (hseq : db.seqno ≤ db'.seqno)
    (hnew : ∀ r ∈ new, r.seqno = db.seqno ∧ r.seqno < db'.seqno ∧ r.ks < db.nextKsId)
    (hc : ∀ k ∈ db.kss, Cov (f k) (recsOf db k.id ++ new.filter fun r => r.ks = k.id))
    (hT : ∀ k ∈ db.kss, ∀ t ∈ (f k).tables, t.seqno < db'.seqno)
    (hmem : ∀ k ∈ db.kss, ∀ x ∈ (f k).sealedMem ++ (f k).mem, x ∈ k.sealedMem ++ k.mem ∨ x ∈ new) : DInv db' := by
  have ha : allRecs db' = allRecs db ++ new := by rw [allRecs, hsealed, hact, ← List.append_assoc]; rfl
  have hall : ∀ {P : Rec → Prop}, (∀ r ∈ allRecs db, P r) → (∀ r ∈ new, P r) → ∀ r ∈ allRecs db', P r :=
    fun h1 h2 r hr => (List.mem_append.mp (ha ▸ hr)).elim (h1 r) (h2 r)
  exact
    { nodup := by rw [hkss, map_ids _ _ hid]; exact h.nodup
      idsBelow := by rw [hkss, hnext, List.forall_mem_map]; exact fun k hk => hid k ▸ h.idsBelow k hk
      recsBelow := by rw [hnext]; exact hall h.recsBelow fun r hr => (hnew r hr).2.2
      seqJ := hall (fun r hr => Nat.lt_of_lt_of_le (h.seqJ r hr) hseq) fun r hr => (hnew r hr).2.1
      seqT := by rw [hkss, List.forall_mem_map]; exact hT
      cov := by
        rw [hkss, List.forall_mem_map]
        intro k hk
        rw [recsOf, ha, List.filter_append, hid]
        exact hc k hk
      order := by
        rw [hsealed, hact]
        exact fun x hx y hy => (List.mem_append.mp hy).elim (h.order x hx y)
          fun hy => (hnew y hy).1 ▸ h.seqJ x (List.mem_append_left _ hx)
      wmOk := by
        rw [hsealed, hkss]
        intro j hj
        rw [List.forall_mem_map]
        intro k hk r hr hrk hrm
        rw [hid] at hrk ⊢
        refine h.wmOk j hj k hk r hr hrk ((hmem k hk r hrm).resolve_right fun hn => ?_)
        exact Nat.lt_irrefl _ ((hnew r hn).1 ▸ h.seqJ r (mem_allRecs_sealed hj hr)) }

theorem upd_inv (db : DbL) (id : KsId) (f : KsL → KsL) (n' : Nat) (h : DInv db) (hn : db.seqno ≤ n')
    (hid : ∀ k, (f k).id = k.id)
    (hc : ∀ k ∈ db.kss, k.id = id → Cov (f k) (recsOf db k.id))
    (hT : ∀ k ∈ db.kss, k.id = id → ∀ t ∈ (f k).tables, t.seqno < n')
    (hmem : ∀ k ∈ db.kss, k.id = id → ∀ x ∈ (f k).sealedMem ++ (f k).mem, x ∈ k.sealedMem ++ k.mem) :
    DInv { (db.updKs id f) with seqno := n' } := by
  refine map_inv (fun k => if k.id = id then f k else k) [] h rfl (fun k => ?_) rfl rfl (List.append_nil _).symm hn
    (by simp) (fun k hk => ?_) (fun k hk => ?_) (fun k hk x hx => .inl ?_)
  · split
    · exact hid k
    · rfl
  · rw [List.filter_nil, List.append_nil]; split
    · exact hc k hk ‹_›
    · exact h.cov k hk
  · split
    · exact hT k hk ‹_›
    · exact fun t ht => Nat.lt_of_lt_of_le (h.seqT k hk t ht) hn
  · split at hx
    · exact hmem k hk ‹_› x hx
    · exact hx

theorem rotate_inv (db : DbL) (id : KsId) (h : DInv db) : DInv (db.rotate id) :=
  upd_inv db id sealMem db.seqno h (Nat.le_refl _) (fun k => (sealMem_rel k).id)
    (fun k hk _ => cov_rotate (h.cov k hk))
    (fun k hk _ t ht => h.seqT k hk t ((sealMem_rel k).tables ▸ ht))
    (fun k _ _ _ hx => (sealMem_rel k).memory ▸ hx)

theorem flushSealed_inv (db : DbL) (id : KsId) (h : DInv db) : DInv (db.flushSealed id) := by
  unfold DbL.flushSealed
  split
  · refine upd_inv db id KsL.flushSealed (db.seqno + 1) h (Nat.le_succ _) (fun k => rfl)
      (fun k hk _ => cov_flushSealed (h.cov k hk)) (fun k hk _ t ht => ?_)
      (fun k _ _ x hx => List.mem_append_right _ hx)
    rcases List.mem_append.mp ht with ht | ht
    · exact Nat.lt_succ_of_lt (h.seqT k hk t ht)
    · exact Nat.lt_succ_of_lt (h.seqM hk t (List.mem_append_left _ (List.mem_filter.mp ht).1))
  · exact h

theorem evictPrefix_eq (db : DbL) (l : List JournalL) : evictPrefix db l = l.dropWhile db.evictable := by
  induction l with
  | nil => rfl
  | cons j rest ih => rw [evictPrefix, List.dropWhile_cons, ih]

theorem evictPrefix_drop (db : DbL) (l : List JournalL) :
    ∃ n, evictPrefix db l = l.drop n ∧ ∀ j ∈ l.take n, db.evictable j = true :=
  ⟨l.findIdx (fun j => !db.evictable j), (evictPrefix_eq db l).trans List.dropWhile_eq_drop_findIdx_not,
    List.takeWhile_eq_take_findIdx_not ▸ List.all_eq_true.mp List.all_takeWhile⟩

theorem evictPrefix_eq_nil (db : DbL) (l : List JournalL) (h : ∀ j ∈ l, db.evictable j = true) :
    evictPrefix db l = [] := by
  rw [evictPrefix_eq, ← List.append_nil l, List.dropWhile_append_of_pos h, List.dropWhile_nil]

theorem create_inv (db : DbL) (n : String) (h : DInv db) : DInv (db.createKs n).1 := by
  simp only [DbL.createKs]
  split
  · exact h
  · have hrecs : recsOf db db.nextKsId = [] :=
      List.filter_eq_nil_iff.mpr fun r hr he => Nat.lt_irrefl _ (of_decide_eq_true he ▸ h.recsBelow r hr)
    exact
      { h with
        nodup := by
          rw [List.map_append]
          exact pairwise_snoc h.nodup (List.forall_mem_map.mpr fun k hk => Nat.ne_of_lt (h.idsBelow k hk))
        idsBelow := forall_mem_snoc (fun k hk => Nat.lt_succ_of_lt (h.idsBelow k hk)) (Nat.lt_succ_self _)
        recsBelow := fun r hr => Nat.lt_succ_of_lt (h.recsBelow r hr)
        seqJ := fun r hr => Nat.lt_succ_of_lt (h.seqJ r hr)
        seqT := forall_mem_snoc (fun k hk t ht => Nat.lt_succ_of_lt (h.seqT k hk t ht))
          fun _ ht => absurd ht List.not_mem_nil
        cov := forall_mem_snoc h.cov (by show Cov _ (recsOf db db.nextKsId); rw [hrecs]; exact cov_fresh _ _)
        wmOk := fun j hj => forall_mem_snoc (h.wmOk j hj) fun _ _ _ hm => absurd hm List.not_mem_nil }

theorem delete_inv (db : DbL) (id : KsId) (h : DInv db) : DInv (db.deleteKs id) :=
  have hsub : ∀ k ∈ (db.deleteKs id).kss, k ∈ db.kss := fun _ hk => (List.mem_filter.mp hk).1
  { h with
    nodup := List.Nodup.sublist (List.Sublist.map _ List.filter_sublist) h.nodup
    idsBelow := fun k hk => h.idsBelow k (hsub k hk)
    seqJ := fun r hr => Nat.lt_of_lt_of_le (h.seqJ r hr) (Nat.le_add_right _ 2)
    seqT := fun k hk t ht => Nat.lt_of_lt_of_le (h.seqT k (hsub k hk) t ht) (Nat.le_add_right _ 2)
    cov := fun k hk => h.cov k (hsub k hk)
    wmOk := fun j hj k hk => h.wmOk j hj k (hsub k hk) }

theorem write_inv (db : DbL) (items : List (KsId × LOp)) (h : DInv db)
    (hwf : ∀ it ∈ items, ∃ k ∈ db.kss, k.id = it.1) : DInv (db.write items) := by
  have hsq : db.seqno < (db.write items).seqno := Nat.lt_add_of_pos_right (by split <;> decide)
  refine map_inv _ _ h (write_kss db items) (fun k => replayKs_id k _) rfl rfl (write_active db items)
    (Nat.le_of_lt hsq) (fun r hr => ?_) (fun k hk => ?_)
    (fun k hk t ht => Nat.lt_trans (h.seqT k hk t (replayKs_tables_sub k _ t ht)) hsq)
    (fun k _ => replayKs_memory_sub k _)
  · obtain ⟨it, hit, rfl⟩ := List.mem_map.mp hr
    obtain ⟨k, hk, hid⟩ := hwf it hit
    exact ⟨rfl, hsq, show it.1 < _ from hid ▸ h.idsBelow k hk⟩
  · refine cov_batch _ db.seqno (fun r hr => ?_) (fun x hx => Nat.le_of_lt (h.seqJ x (recsOf_mem db _ x hx)))
      (fun x hx => h.seqM hk x (List.mem_append_left _ hx)) (h.seqT k hk) (h.cov k hk)
    obtain ⟨it, _, rfl⟩ := List.mem_map.mp hr; exact ⟨rfl, rfl⟩

/-- the watermarks `rotateJournal` takes cover what is only in memory -/
theorem memHighest_covers (db : DbL) (k : KsL) (hk : k ∈ db.kss) (r : Rec) (hr : r ∈ k.sealedMem ++ k.mem) :
    ∃ lsn, (k.id, lsn) ∈ (db.kss.filterMap fun k => k.memHighest.map fun h => (k.id, h)) ∧ r.seqno ≤ lsn := by
  obtain ⟨m, hm, hle⟩ := maxSeqno_ge _ r hr
  exact ⟨m, List.mem_filterMap.mpr ⟨k, hk, by simp [KsL.memHighest, hm]⟩, hle⟩

theorem rotateJournal_inv (db : DbL) (h : DInv db) : DInv db.rotateJournal := by
  have ha : allRecs db.rotateJournal = allRecs db := by simp [allRecs, DbL.rotateJournal]
  exact
    { h with
      recsBelow := ha ▸ h.recsBelow
      seqJ := ha ▸ h.seqJ
      cov := fun k hk => by
        show Cov k ((allRecs db.rotateJournal).filter _)
        rw [ha]; exact h.cov k hk
      order := fun _ _ _ hy => absurd hy List.not_mem_nil
      wmOk := forall_mem_snoc h.wmOk fun k hk r _ _ hrm => memHighest_covers db k hk r hrm }

theorem maintenance_inv (db : DbL) (h : DInv db) : DInv db.maintenance := by
  obtain ⟨n, hdrop, hev⟩ := evictPrefix_drop db db.sealed
  have hsealed : db.maintenance.sealed = db.sealed.drop n := hdrop
  have hsplit : allRecs db = (db.sealed.take n).flatMap (·.recs) ++ allRecs db.maintenance := by
    simp only [allRecs, DbL.maintenance, hdrop]
    rw [← List.append_assoc, ← List.flatMap_append, List.take_append_drop]
  have hsub : ∀ r ∈ allRecs db.maintenance, r ∈ allRecs db := fun r hr => hsplit ▸ List.mem_append_right _ hr
  exact
    { h with
      recsBelow := fun r hr => h.recsBelow r (hsub r hr)
      seqJ := fun r hr => h.seqJ r (hsub r hr)
      cov := fun k hk => by
        have hc := h.cov k hk
        refine cov_evict hc (by rw [recsOf, hsplit, List.filter_append]; rfl) fun d hd hdm => ?_
        -- an evicted journal's watermark for `k` is flushed, yet `d` is still in memory
        obtain ⟨hd1, hd2⟩ := List.mem_filter.mp hd
        obtain ⟨j, hj, hdj⟩ := List.mem_flatMap.mp hd1
        obtain ⟨lsn, hw, hle⟩ := h.wmOk j (List.mem_of_mem_take hj) k hk d hdj (of_decide_eq_true hd2) hdm
        rcases (flushedUpTo_iff k lsn).mp
          ((evictable_iff db j).mp (hev j hj) k.id lsn hw k (find_of_mem db.kss h.nodup k hk)) with
          ⟨p, hp, h1⟩ | ⟨h1, h2⟩
        · have hlt : p < d.seqno := (above_iff _ _).mp (hc.memAbove d hdm) p hp
          exact Nat.lt_irrefl p (Nat.lt_of_lt_of_le hlt (Nat.le_trans hle h1))
        · rw [h1, h2] at hdm; cases hdm
      order := fun x hx =>
        let ⟨j, hj, hxj⟩ := List.mem_flatMap.mp hx
        h.order x (List.mem_flatMap.mpr ⟨j, List.mem_of_mem_drop (hsealed ▸ hj), hxj⟩)
      wmOk := fun j hj => h.wmOk j (List.mem_of_mem_drop (hsealed ▸ hj)) }

/-- the last conjunct: what is in memory passed the skip rule (`recover_inv` needs it for the
    recomputed watermarks) -/
theorem recoverKs_spec (db : DbL) (h : DInv db) (k : KsL) (hk : k ∈ db.kss) :
    (recoverKs db k).name = k.name ∧ (recoverKs db k).abs.Equiv k.abs ∧ Cov (recoverKs db k) (recsOf db k.id) ∧
    ∀ x ∈ (recoverKs db k).sealedMem ++ (recoverKs db k).mem, above k.persisted x = true := by
  obtain ⟨hrel, hS, hM⟩ : Rel (recoverKs db k) (replayKs { k with sealedMem := [], mem := [] }
      ((recsOf db k.id).filter (above k.persisted))) ∧ _ ∧ _ := recoverKs_rel db k
  obtain ⟨hcov, habs⟩ := replayKs_recovers (recsOf_ks db k.id) (h.cov k hk)
  refine ⟨by rw [hrel.name, replayKs_name], ?_, ?_, fun x hx => ?_⟩
  · rw [abs_repartition hrel.tables hrel.memory]; exact habs
  · -- sealed memtables come from sealed journals, the active one from the active journal
    refine cov_repartition hcov hrel.tables hrel.persisted hrel.memory fun x hx y hy => ?_
    exact h.order x (hS x hx) y (hM y hy)
  · rw [hrel.memory] at hx
    exact (List.mem_filter.mp ((replayKs_memory_sub _ _ x hx).resolve_left List.not_mem_nil)).2

theorem recover_inv (db : DbL) (h : DInv db) : DInv db.recover := by
  obtain ⟨hk, hs⟩ := recover_eq db h.nodup
  have hr : db.recover.sealed.flatMap (·.recs) = db.sealed.flatMap (·.recs) := by rw [hs, List.flatMap_map]
  have ha : allRecs db.recover = allRecs db := congrArg (· ++ db.active.recs) hr
  obtain ⟨n1, n2⟩ := recover_nextKsId db
  obtain ⟨q1, q2⟩ := recover_seqno db
  exact
    { nodup := by rw [hk, map_ids _ _ (recoverKs_id db)]; exact h.nodup
      idsBelow := by rw [hk, List.forall_mem_map]; exact fun k hk => recoverKs_id db k ▸ n1 k hk
      recsBelow := ha ▸ n2
      seqJ := ha ▸ q2
      seqT := fun k hkm t ht => q1 k hkm t (by simp [ht])
      cov := by
        rw [hk, List.forall_mem_map]
        intro k0 hk0
        rw [recsOf, ha, recoverKs_id]
        exact (recoverKs_spec db h k0 hk0).2.2.1
      order := hr ▸ h.order
      wmOk := by
        rw [hs, hk, List.forall_mem_map]
        intro j _
        rw [List.forall_mem_map]
        intro k0 hk0 r hr hrk hrm
        rw [recoverKs_id] at hrk ⊢
        -- `r` is in memory after recovery, so it passed the skip rule and counts for the recomputed watermark
        have hneed : needsReplay (pbOf db) r = true := by
          rw [needsReplay, hrk, lookup_pb db h.nodup k0 hk0]
          exact (recoverKs_spec db h k0 hk0).2.2.2 r hrm
        obtain ⟨lsn, hlsn, hle⟩ := maxSeqno_ge (List.filter (·.ks = k0.id) _) r
          (List.mem_filter.mpr ⟨List.mem_filter.mpr ⟨hr, hneed⟩, decide_eq_true hrk⟩)
        refine ⟨lsn, ?_, hle⟩
        rw [replayWatermarks_eq]
        exact List.mem_filterMap.mpr ⟨k0, hk0, by rw [hlsn]; rfl⟩ }

theorem dstep_inv (db : DbL) (op : DOp) (h : DInv db) (hwf : op.WF db) : DInv (dstep db op) := by
  cases op with
  | createKs n => exact create_inv db n h
  | deleteKs id => exact delete_inv db id h
  | write items => exact write_inv db items h hwf
  | rotate id => exact rotate_inv db id h
  | flushSealed id => exact flushSealed_inv db id h
  | lowerPersisted id v =>
    exact upd_inv db id (·.lowerPersisted v) db.seqno h (Nat.le_refl _) (fun k => by rw [lowerPersisted_eq])
      (fun k hk hi => cov_lower v (h.cov k hk) (hwf k hk hi))
      (fun k hk _ t ht => h.seqT k hk t (by rwa [lowerPersisted_eq] at ht))
      (fun k _ _ x hx => by rwa [lowerPersisted_eq] at hx)
  | ingest id items =>
    simp only [dstep, DbL.ingest]
    split
    · exact h
    · rename_i hne
      have h1 : DInv (db.flush id) := flushSealed_inv _ id (rotate_inv db id h)
      refine upd_inv (db.flush id) id _ ((db.flush id).seqno + 1) h1 (Nat.le_succ _) (fun k => rfl)
        (fun k hk hi => ?_) (fun k hk _ t ht => ?_) (fun k _ _ x hx => hx)
      · obtain ⟨e1, e2⟩ := flush_mem_empty db id k hk hi
        refine cov_ingest _ (db.flush id).seqno (h1.cov k hk) e1 e2
          (fun e => hne (List.isEmpty_iff.mpr (List.map_eq_nil_iff.mp e))) (fun r hr => ?_)
          (h1.seqT k hk) (fun r hr => Nat.le_of_lt (h1.seqJ r (recsOf_mem _ _ r hr)))
        obtain ⟨⟨key, _ | v⟩, hit, rfl⟩ := List.mem_map.mp hr
        · cases hwf _ hit
        · exact ⟨rfl, rfl, rfl, rfl⟩
      · rcases List.mem_append.mp ht with ht | ht
        · exact Nat.lt_succ_of_lt (h1.seqT k hk t ht)
        · obtain ⟨it, _, rfl⟩ := List.mem_map.mp ht; exact Nat.lt_succ_self _
  | rotateJournal => exact rotateJournal_inv db h
  | maintenance => exact maintenance_inv db h
  | reopen => exact recover_inv db h

def drun (db : DbL) : List DOp → DbL
  | [] => db
  | o :: os => drun (dstep db o) os

def ProgWF (db : DbL) : List DOp → Prop
  | [] => True
  | o :: os => o.WF db ∧ ProgWF (dstep db o) os

instance progWFDec : (db : DbL) → (ops : List DOp) → Decidable (ProgWF db ops)
  | _, [] => isTrue trivial
  | db, o :: os =>
    match (inferInstance : Decidable (o.WF db)), progWFDec (dstep db o) os with
    | isTrue h1, isTrue h2 => isTrue ⟨h1, h2⟩
    | isFalse h1, _ => isFalse fun h => h1 h.1
    | _, isFalse h2 => isFalse fun h => h2 h.2

theorem drun_inv (db : DbL) (ops : List DOp) (h : DInv db) (hwf : ProgWF db ops) : DInv (drun db ops) := by
  induction ops generalizing db with
  | nil => exact h
  | cons o os ih => exact ih _ (dstep_inv db o h hwf.1) hwf.2

theorem reach_dinv {ops : List DOp} (hwf : ProgWF {} ops) : DInv (drun {} ops) :=
  drun_inv {} ops init_dinv hwf

theorem recover_abs (db : DbL) (h : DInv db) (id : KsId) : (db.recover.absOf id).Equiv (db.absOf id) := by
  simp only [DbL.absOf, DbL.find]
  rw [recover_kss_eq db h.nodup, find_map_id _ _ (recoverKs_id db)]
  cases hf : db.kss.find? (·.id = id) with
  | none => exact KMap.Equiv.refl _
  | some k => exact (recoverKs_spec db h k (find_eq_some hf).1).2.1

theorem recover_names (db : DbL) (h : DInv db) :
    db.recover.kss.map (fun k => (k.id, k.name)) = db.kss.map fun k => (k.id, k.name) := by
  rw [recover_kss_eq _ h.nodup, List.map_map]
  exact List.map_congr_left fun k hk => Prod.ext (recoverKs_id db k) (recoverKs_spec db h k hk).1

end Fjall.Db
