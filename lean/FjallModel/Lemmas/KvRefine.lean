/-
  Forward simulation: one step of `kvStep` against one step of `specStep` under `Rel`, then runs.
-/
import FjallModel.Lemmas.Kv
namespace Fjall.Mvcc
open Fjall Fjall.Spec

def Rel (s : Kv) (m : KsId → KMap) : Prop := ∀ ks, TRel (s.trees ks) s.seqno (m ks)

theorem specItems_single (m : KsId → KMap) (ks : KsId) (items : List (Key × Option Val)) :
    specItems m (items.map fun (k, v) => (ks, k, v)) =
      fun x => if x = ks then items.reverse ++ m ks else m x := by
  induction items generalizing m with
  | nil => funext x; by_cases hx : x = ks <;> simp [specItems, hx]
  | cons it r ih =>
    rw [List.map_cons, specItems, ih]
    funext x
    by_cases hx : x = ks <;> simp [hx]

theorem rel_upd {s : Kv} {m : KsId → KMap} (h : Rel s m) (ks : KsId) (f : Tree → Tree) {s' : Nat}
    (hs : s.seqno ≤ s') {m' : KMap} (hks : TRel (f (s.trees ks)) s' m') :
    Rel { trees := s.upd ks f, seqno := s' } (fun x => if x = ks then m' else m x) := by
  intro x
  by_cases hx : x = ks
  · subst hx; simpa [Kv.upd] using hks
  · simpa [Kv.upd, hx] using (h x).mono hs

theorem rel_maint {s : Kv} {m : KsId → KMap} (h : Rel s m) (ks : KsId) (f : Tree → Tree) {s' : Nat}
    (hs : s.seqno ≤ s') (hf : Maintained (s.trees ks) (f (s.trees ks))) :
    Rel { trees := s.upd ks f, seqno := s' } m := by
  have := rel_upd h ks f hs ((h ks).of_maintained hs hf)
  rwa [show (fun x => if x = ks then m ks else m x) = m from
    funext fun x => ite_eq_right_iff.mpr fun hx => hx ▸ rfl] at this

theorem kv_step_refines (s : Kv) (m : KsId → KMap) (h : Rel s m) (op : KvOp) (hwf : op.WF) :
    (kvStep s op).2 = (specStep m op).2 ∧ Rel (kvStep s op).1 (specStep m op).1 := by
  have hpt : ∀ ks k, (s.trees ks).pointGet none k = (m ks).get k := fun ks k => by
    rw [pointGet_eq_abs _ _ _ (h ks).inv.ordered (h ks).inv.distinct]; exact (h ks).abs k
  have hl : ∀ ks, ((s.trees ks).absMap none).toList = (m ks).toList := fun ks =>
    toList_congr (absMap_equiv (h ks))
  cases op with
  | insert ks k v => exact ⟨rfl, rel_upd h ks _ (Nat.le_succ _) (apply_trel (h ks) k (some v))⟩
  | remove ks k => exact ⟨rfl, rel_upd h ks _ (Nat.le_succ _) (apply_trel (h ks) k none)⟩
  | batch items =>
    cases items with
    | nil => exact ⟨rfl, h⟩
    | cons it r =>
      exact ⟨rfl, fun ks => (applyItems_rel (it :: r) s.seqno s.trees m (fun ks => (h ks).toBRel) ks).toTRel⟩
  | clear ks => exact ⟨rfl, rel_upd h ks _ (Nat.le_add_right _ 2) (empty_trel _)⟩
  | ingest ks items =>
    cases items with
    | nil => exact ⟨rfl, h⟩
    | cons it r =>
      rw [specStep, specItems_single]
      -- the run's seqno is `s.seqno`, or one more if the flush registered a version
      refine ⟨rfl, rel_upd h ks _ (Nat.le_succ_of_le ?hg)
        (ingest_trel (h ks) _ ?hg (it :: r) (List.cons_ne_nil it r) hwf)⟩
      split <;> simp
  | rotate ks => exact ⟨rfl, rel_maint h ks _ (Nat.le_refl _) (rotate_maintained _ (h ks).inv)⟩
  | flush ks w =>
    rw [kvStep]
    split
    · exact ⟨rfl, h⟩
    · exact ⟨rfl, rel_maint h ks _ (Nat.le_succ _) (flush_maintained _ w (h ks).inv)⟩
  | compact ks i n w =>
    rw [kvStep]
    split
    · exact ⟨rfl, h⟩
    · exact ⟨rfl, rel_maint h ks _ (Nat.le_succ _) (compact_maintained _ i n w (h ks).inv)⟩
  | get ks k | contains ks k | sizeOf ks k => exact ⟨by dsimp only [kvStep, specStep]; rw [hpt], h⟩
  | scan ks lo hi => exact ⟨congrArg KvOut.pairs (range_congr_on lo hi fun k _ => absMap_equiv (h ks) k), h⟩
  | len ks | isEmpty ks | first ks | last ks => exact ⟨by dsimp only [kvStep, specStep]; rw [hl], h⟩

theorem kv_run_refines (s : Kv) (m : KsId → KMap) (h : Rel s m) (prog : List KvOp)
    (hwf : ∀ op ∈ prog, op.WF) :
    (kvRun s prog).2 = (specRun m prog).2 ∧ Rel (kvRun s prog).1 (specRun m prog).1 := by
  induction prog generalizing s m with
  | nil => exact ⟨rfl, h⟩
  | cons o os ih =>
    obtain ⟨h1, h2⟩ := kv_step_refines s m h o (hwf o (by simp))
    obtain ⟨h3, h4⟩ := ih _ _ h2 (fun op hop => hwf op (by simp [hop]))
    simp only [kvRun, specRun]
    exact ⟨by rw [h1, h3], h4⟩

theorem init_rel : Rel {} (fun _ => []) := fun _ => empty_trel 0

end Fjall.Mvcc
