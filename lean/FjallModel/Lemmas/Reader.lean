/-
  The reader on what the writer wrote. `readFrom` is `readLoop` with fuel that cannot run out;
  its four equations (no entry, Start, End, payload entry) are what other proofs use of `readLoop`.
  On encoded input it goes entry by entry (`readFrom_payloads`) and batch by batch
  (`readFrom_batches`).
-/
import FjallModel.Journal.Reader
import FjallModel.Lemmas.Entry
namespace Fjall.Journal
open Fjall

variable (p : Params) (c : Codec) (h : Bytes → Nat) (total : Nat)

/-- The fuel of `readLoop` only makes the recursion structural: every entry consumes a byte, so
    fuel above the input length never runs out. -/
theorem readLoop_fuel (fuel fuel' : Nat) (st : RState) (x : Bytes) (h1 : x.length < fuel)
    (h2 : x.length < fuel') : readLoop p c h total fuel st x = readLoop p c h total fuel' st x := by
  induction fuel generalizing fuel' st x with
  | zero => exact absurd h1 (Nat.not_lt_zero _)
  | succ f ih =>
    cases fuel' with
    | zero => exact absurd h2 (Nat.not_lt_zero _)
    | succ f' =>
      rw [readLoop, readLoop]
      cases hd : decodeEntry p c x with
      | none => rfl
      | some er =>
        have hlt := decodeEntry_lt p c x er.1 er.2 hd
        simp only [fun st' => ih f' st' er.2 (Nat.lt_of_lt_of_le hlt (Nat.le_of_lt_succ h1))
          (Nat.lt_of_lt_of_le hlt (Nat.le_of_lt_succ h2))]

def readFrom (st : RState) (x : Bytes) : ReadResult := readLoop p c h total (x.length + 1) st x

theorem readJournal_eq (x : Bytes) : readJournal p c h x = readFrom p c h x.length {} x := rfl

theorem encodeBody_nil : encodeBody p c [] = [] := rfl

theorem encodeBody_cons (e : Entry) (es : List Entry) :
    encodeBody p c (e :: es) = encodeEntry p c e ++ encodeBody p c es := rfl

theorem encodeBody_append (es fs : List Entry) :
    encodeBody p c (es ++ fs) = encodeBody p c es ++ encodeBody p c fs :=
  List.flatMap_append

theorem encodeBatches_cons (b : WBatch) (bs : List WBatch) :
    encodeBatches p c h (b :: bs) = encodeBatch p c h b ++ encodeBatches p c h bs := rfl

theorem encodeBatches_append (as bs : List WBatch) :
    encodeBatches p c h (as ++ bs) = encodeBatches p c h as ++ encodeBatches p c h bs :=
  List.flatMap_append

theorem itemsOf_append (a b : List Entry) : itemsOf (a ++ b) = itemsOf a ++ itemsOf b := by
  induction a with
  | nil => rfl
  | cons e a ih => cases e <;> simp [itemsOf, ih]

theorem clearsOf_append (a b : List Entry) : clearsOf (a ++ b) = clearsOf a ++ clearsOf b := by
  induction a with
  | nil => rfl
  | cons e a ih => cases e <;> simp [clearsOf, ih]

def RState.push (st : RState) (e : Entry) (len : Nat) : RState :=
  { st with counter := st.counter - 1, items := st.items ++ itemsOf [e],
            clears := st.clears ++ clearsOf [e], acc := st.acc ++ encodeEntry p c e,
            pos := st.pos + len }

def RState.pushAll (st : RState) (es : List Entry) : RState :=
  { st with counter := st.counter - es.length, items := st.items ++ itemsOf es,
            clears := st.clears ++ clearsOf es, acc := st.acc ++ encodeBody p c es,
            pos := st.pos + (encodeBody p c es).length }

theorem pushAll_nil (st : RState) : st.pushAll p c [] = st := by
  simp [RState.pushAll, itemsOf, clearsOf, encodeBody]

theorem pushAll_cons (st : RState) (e : Entry) (es : List Entry) :
    st.pushAll p c (e :: es) = (st.push p c e (encodeEntry p c e).length).pushAll p c es := by
  have h1 : itemsOf (e :: es) = itemsOf [e] ++ itemsOf es := itemsOf_append [e] es
  have h2 : clearsOf (e :: es) = clearsOf [e] ++ clearsOf es := clearsOf_append [e] es
  simp only [RState.pushAll, RState.push, h1, h2, encodeBody, List.flatMap_cons, List.length_cons,
    List.append_assoc, List.length_append, Nat.add_assoc, Nat.sub_sub, Nat.add_comm 1]

/-- The reader between batches: what `JournalBatchReader` is after the End marker of a batch with
    seqno `s` that ended at file offset `q`; the fresh reader `{}` is `cleanAt 0 0`. -/
def cleanAt (s q : Nat) : RState :=
  { inBatch := false, counter := 0, seqno := s, items := [], clears := [], acc := [],
    lastValid := q, pos := q }

theorem stopLen_cleanAt (s q : Nat) : (cleanAt s q).stopLen = q := rfl

variable {p c} {x r : Bytes}

theorem readFrom_none (hd : decodeEntry p c x = none) (st : RState) :
    readFrom p c h total st x = ⟨[], st.stopLen, none⟩ := by
  rw [readFrom, readLoop, hd]

theorem readLoop_rest {e : Entry} (hd : decodeEntry p c x = some (e, r)) (st : RState) :
    readLoop p c h total x.length st r = readFrom p c h total st r :=
  readLoop_fuel p c h total _ _ st r (decodeEntry_lt p c x e r hd) (Nat.lt_succ_self _)

theorem readFrom_start {n s : Nat} (hd : decodeEntry p c x = some (.start n s, r)) (st : RState) :
    readFrom p c h total st x =
      if st.inBatch then ⟨[], st.lastValid, none⟩
      else readFrom p c h total
        { st with inBatch := true, counter := n, seqno := s,
                  pos := st.pos + (x.length - r.length) } r := by
  rw [readFrom, readLoop, hd]
  simp only [readLoop_rest h total hd]

theorem readFrom_fin {sum : Nat} (hd : decodeEntry p c x = some (.fin sum, r)) (st : RState) :
    readFrom p c h total st x =
      if st.counter > 0 then ⟨[], total, some .insufficientLength⟩
      else if !st.inBatch then ⟨[], st.lastValid, none⟩
      else if h st.acc ≠ sum then ⟨[], total, some .checksumMismatch⟩
      else (readFrom p c h total (cleanAt st.seqno (st.pos + (x.length - r.length))) r).cons
        ⟨st.seqno, st.items, st.clears⟩ := by
  rw [readFrom, readLoop, hd]
  simp only [readLoop_rest h total hd, cleanAt]

/-- `batch_reader.rs` treats `Entry::Item` and `Entry::Clear` alike up to the list they go to -/
theorem readFrom_payload {e : Entry} (hd : decodeEntry p c x = some (e, r))
    (hpl : e.isPayload = true) (st : RState) :
    readFrom p c h total st x =
      if !st.inBatch then ⟨[], st.lastValid, none⟩
      else if st.counter = 0 then ⟨[], total, some .tooManyItems⟩
      else readFrom p c h total (st.push p c e (x.length - r.length)) r := by
  rw [readFrom, readLoop, hd]
  cases e with
  | start | fin => cases hpl
  | item | clear =>
    simp only [readLoop_rest h total hd, RState.push, itemsOf, clearsOf, List.append_nil]

theorem readFrom_payload_enc (hp : p.Valid) (hc : c.Law) (st : RState) (e : Entry)
    (hpl : e.isPayload = true) (hwf : e.WF c) (hin : st.inBatch = true) (hcnt : 0 < st.counter)
    (tail : Bytes) :
    readFrom p c h total st (encodeEntry p c e ++ tail) =
      readFrom p c h total (st.push p c e (encodeEntry p c e).length) tail := by
  rw [readFrom_payload h total (decode_encode p c hp hc e hwf tail) hpl, hin, if_neg (by simp),
    if_neg (Nat.ne_of_gt hcnt), List.length_append, Nat.add_sub_cancel]

theorem readFrom_payloads (hp : p.Valid) (hc : c.Law) (es : List Entry)
    (hes : ∀ e ∈ es, e.isPayload = true ∧ e.WF c) (st : RState) (hin : st.inBatch = true)
    (hcnt : es.length ≤ st.counter) (tail : Bytes) :
    readFrom p c h total st (encodeBody p c es ++ tail) =
      readFrom p c h total (st.pushAll p c es) tail := by
  induction es generalizing st with
  | nil => rw [pushAll_nil]; rfl
  | cons e es ih =>
    obtain ⟨he, hes⟩ := List.forall_mem_cons.mp hes
    rw [List.length_cons] at hcnt
    rw [encodeBody_cons, List.append_assoc, readFrom_payload_enc h total hp hc st e he.1 he.2
      hin (Nat.lt_of_lt_of_le (Nat.succ_pos _) hcnt), pushAll_cons]
    exact ih hes _ hin (Nat.le_sub_one_of_lt hcnt)

theorem stopLen_inBatch (st : RState) (hin : st.inBatch = true) : st.stopLen = st.lastValid := by
  simp [RState.stopLen, hin]

theorem readFrom_batch (hp : p.Valid) (hc : c.Law) (hh : ∀ x, h x < 2^64) (b : WBatch)
    (hb : b.WF c) (s q : Nat) (tail : Bytes) :
    readFrom p c h total (cleanAt s q) (encodeBatch p c h b ++ tail) =
      (readFrom p c h total (cleanAt b.seqno (q + (encodeBatch p c h b).length)) tail).cons
        b.toBatch := by
  obtain ⟨hlen, hseq, hes⟩ := hb
  simp only [encodeBatch, List.append_assoc]
  rw [readFrom_start h total (decode_encode p c hp hc (.start _ _) ⟨hlen, hseq⟩ _),
    if_neg (by simp [cleanAt]),
    readFrom_payloads h total hp hc b.entries hes _ rfl (Nat.le_refl _),
    readFrom_fin h total (decode_encode p c hp hc (.fin _) (hh _) tail),
    if_neg (by simp [RState.pushAll]), if_neg (by simp [RState.pushAll]),
    -- the checksum: the bytes accumulated since the Start marker are `[] ++ encodeBody p c b.entries`,
    -- which is what the writer hashed
    if_neg (by simp [RState.pushAll, cleanAt])]
  simp only [RState.pushAll, cleanAt, WBatch.toBatch, List.nil_append, List.length_append,
    Nat.add_sub_cancel, Nat.add_assoc]

def ReadResult.prepend (bs : List Batch) (r : ReadResult) : ReadResult :=
  { r with batches := bs ++ r.batches }

theorem cons_cons_eq (b : Batch) (r : ReadResult) : (r.cons b).batches = b :: r.batches := rfl

theorem prepend_cons (b : Batch) (bs : List Batch) (r : ReadResult) :
    (r.prepend bs).cons b = r.prepend (b :: bs) := rfl

theorem prepend_nil (r : ReadResult) : r.prepend [] = r := rfl

def lastSeqno (s0 : Nat) : List WBatch → Nat
  | [] => s0
  | b :: bs => lastSeqno b.seqno bs

theorem readFrom_batches (hp : p.Valid) (hc : c.Law) (hh : ∀ x, h x < 2^64) (bs : List WBatch)
    (hbs : ∀ b ∈ bs, b.WF c) (s q : Nat) (tail : Bytes) :
    readFrom p c h total (cleanAt s q) (encodeBatches p c h bs ++ tail) =
      (readFrom p c h total (cleanAt (lastSeqno s bs) (q + (encodeBatches p c h bs).length))
        tail).prepend (bs.map WBatch.toBatch) := by
  induction bs generalizing s q with
  | nil => exact (prepend_nil _).symm
  | cons b bs ih =>
    obtain ⟨hb, hbs⟩ := List.forall_mem_cons.mp hbs
    rw [encodeBatches_cons, List.append_assoc, readFrom_batch h total hp hc hh b hb, ih hbs,
      List.length_append, Nat.add_assoc]
    exact prepend_cons ..

/-- The round trip is the case `tail = []`, the torn tail the case where `tail` is a cut batch. -/
theorem readJournal_prefix (hp : p.Valid) (hc : c.Law) (hh : ∀ x, h x < 2^64) (bs : List WBatch)
    (hbs : ∀ b ∈ bs, b.WF c) (tail : Bytes) :
    readJournal p c h (encodeBatches p c h bs ++ tail) =
      (readFrom p c h (encodeBatches p c h bs ++ tail).length
        (cleanAt (lastSeqno 0 bs) (encodeBatches p c h bs).length) tail).prepend
        (bs.map WBatch.toBatch) := by
  rw [readJournal_eq, show ({} : RState) = cleanAt 0 0 from rfl,
    readFrom_batches h _ hp hc hh bs hbs, Nat.zero_add]

end Fjall.Journal
