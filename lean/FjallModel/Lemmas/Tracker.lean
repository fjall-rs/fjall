/-
  The table is a finite map that `cnt` reads and `bump` / `decr` change at one key.  Every `Op` is
  a composition of a few elementary updates of the state (register or release a nonce, raise the
  visible seqno, filter the table, set the watermark); the invariant is shown for each of those.
-/
import FjallModel.Tracker
namespace Fjall.Tracker

theorem cnt_bump (i j : Nat) (d : List (Nat × Nat)) :
    cnt j (bump i d) = cnt j d + if i = j then 1 else 0 := by
  -- the cases of `bump` (and of `decr`): empty table, key found, entry of another key passed over
  fun_induction bump i d with
  | case1 => exact (Nat.zero_add _).symm
  | case2 c r => by_cases hj : i = j <;> simp [cnt, hj]
  | case3 k c r hk ih =>
    -- if the entry passed over is `j`'s, then `j` is not `i`
    by_cases hj : k = j
    · simp [cnt, hj, hj ▸ Ne.symm hk]
    · simp [cnt, hj, ih]

theorem cnt_decr (i j : Nat) (d : List (Nat × Nat)) :
    cnt j (decr i d) = cnt j d - if i = j then 1 else 0 := by
  fun_induction decr i d with
  | case1 => exact (Nat.zero_sub _).symm
  | case2 c r => by_cases hj : i = j <;> simp [cnt, hj]
  | case3 k c r hk ih =>
    by_cases hj : k = j
    · simp [cnt, hj, hj ▸ Ne.symm hk]
    · simp [cnt, hj, ih]

theorem cnt_pos_mem {i : Nat} {d : List (Nat × Nat)} (h : 0 < cnt i d) : (i, cnt i d) ∈ d := by
  fun_induction cnt i d with
  | case1 => cases h
  | case2 c r => exact List.mem_cons_self
  | case3 k c r hk ih => exact List.mem_cons_of_mem _ (ih h)

/-- `gc` drops only entries whose count is 0 -/
theorem cnt_le_filter_keep (thr i : Nat) (d : List (Nat × Nat)) :
    cnt i d ≤ cnt i (d.filter (keep thr)) := by
  fun_induction cnt i d with
  | case1 => exact Nat.le_refl _
  | case2 c r =>
    rw [List.filter_cons]
    split
    · simp [cnt]
    · rename_i hdrop
      simp [keep] at hdrop; omega
  | case3 k c r hk ih =>
    rw [List.filter_cons]
    split
    · simpa [cnt, hk] using ih
    · exact ih

theorem keys_bump {i s : Nat} {d : List (Nat × Nat)} (hi : i ≤ s) (h : ∀ kc ∈ d, kc.1 ≤ s) :
    ∀ kc ∈ bump i d, kc.1 ≤ s := by
  fun_induction bump i d with
  | case1 => exact List.forall_mem_cons.mpr ⟨hi, h⟩
  | case2 c r => exact List.forall_mem_cons.mpr (List.forall_mem_cons.mp h)
  | case3 k c r hk ih =>
    rw [List.forall_mem_cons] at h
    exact List.forall_mem_cons.mpr ⟨h.1, ih h.2⟩

theorem keys_decr {i s : Nat} {d : List (Nat × Nat)} (h : ∀ kc ∈ d, kc.1 ≤ s) :
    ∀ kc ∈ decr i d, kc.1 ≤ s := by
  fun_induction decr i d with
  | case1 => exact h
  | case2 c r => exact List.forall_mem_cons.mpr (List.forall_mem_cons.mp h)
  | case3 k c r hk ih =>
    rw [List.forall_mem_cons] at h
    exact List.forall_mem_cons.mpr ⟨h.1, ih h.2⟩

theorem lowestL_none_nil : lowestL none [] = none := rfl

theorem lowestL_eq (acc : Option Nat) (l : List (Nat × Nat)) :
    lowestL acc l = (acc.toList ++ l.map (·.1)).min? := by
  induction l generalizing acc with
  | nil => cases acc <;> rfl
  | cons x r ih => exact (ih _).trans (by cases acc <;> rfl)

theorem lowestL_none (l : List (Nat × Nat)) : lowestL none l = (l.map (·.1)).min? := lowestL_eq none l

theorem lowestL_getD_le_of_mem {l : List (Nat × Nat)} {kc : Nat × Nat} {d : Nat} (h : kc ∈ l) :
    (lowestL none l).getD d ≤ kc.1 :=
  lowestL_none l ▸ List.min?_getD_le_of_mem (List.mem_map_of_mem h)

theorem init_inv : Inv {} := ⟨fun _ => Nat.le_refl _, nofun, Nat.le_refl _, nofun⟩

namespace Inv
variable {g : G} (h : Inv g)
include h

theorem live_mem {i : Nat} (hi : i ∈ g.live) : 0 < cnt i g.t.data ∧ (i, cnt i g.t.data) ∈ g.t.data :=
  have hc := Nat.lt_of_lt_of_le (List.count_pos_iff.mpr hi) (h.counted i)
  ⟨hc, cnt_pos_mem hc⟩

theorem bump_cons {j : Nat} (hw : g.t.wm ≤ j - 1) (hj : j ≤ g.t.seqno) :
    Inv { t := { g.t with data := bump j g.t.data }, live := j :: g.live } := by
  refine ⟨fun i => ?_, List.forall_mem_cons.mpr ⟨hw, h.safe⟩, h.below, keys_bump hj h.keys⟩
  show List.count i (j :: g.live) ≤ cnt i (bump j g.t.data)
  simp only [cnt_bump, List.count_cons, beq_iff_eq]
  exact Nat.add_le_add_right (h.counted i) _

theorem decr_erase (j f : Nat) :
    Inv { t := { g.t with data := decr j g.t.data, freed := f }, live := g.live.erase j } := by
  refine ⟨fun i => ?_, fun i hi => h.safe i (List.mem_of_mem_erase hi), h.below, keys_decr h.keys⟩
  show List.count i (g.live.erase j) ≤ cnt i (decr j g.t.data)
  simp only [cnt_decr, List.count_erase, beq_iff_eq]
  exact Nat.sub_le_sub_right (h.counted i) _

theorem seqno_le {s : Nat} (hs : g.t.seqno ≤ s) : Inv { g with t := { g.t with seqno := s } } :=
  ⟨h.counted, h.safe, Nat.le_trans h.below (Nat.sub_le_sub_right hs 1),
    fun kc hkc => Nat.le_trans (h.keys kc hkc) hs⟩

theorem filter_keep (thr : Nat) :
    Inv { g with t := { g.t with data := g.t.data.filter (keep thr) } } :=
  ⟨fun i => Nat.le_trans (h.counted i) (cnt_le_filter_keep _ _ _), h.safe, h.below,
    fun kc hkc => h.keys kc (List.mem_filter.mp hkc).1⟩

theorem set_wm {w : Nat} (hw : ∀ i ∈ g.live, w ≤ i - 1) (hs : w ≤ g.t.seqno - 1) :
    Inv { g with t := { g.t with wm := w } } :=
  ⟨h.counted, hw, hs, h.keys⟩

theorem gc {ord : List (Nat × Nat)} (hp : ord.Perm g.t.data) : Inv { g with t := gcWith ord g.t } := by
  refine (h.filter_keep g.t.seqno).set_wm
    (fun i hi => Nat.max_le.mpr ⟨h.safe i hi, Nat.sub_le_sub_right ?_ 1⟩)
    (Nat.max_le.mpr ⟨h.below, Nat.sub_le_sub_right ?_ 1⟩)
  · -- `lo` is below a live instant, because its entry is visited and kept
    have ⟨hc, hmem⟩ := h.live_mem hi
    exact lowestL_getD_le_of_mem (List.mem_filter.mpr ⟨hp.symm.subset hmem, by simp [keep, hc]⟩)
  · -- `lo ≤ seqno`: it is `seqno` itself, or below a key of the table
    cases hl : ord.filter (keep g.t.seqno) with
    | nil => exact Nat.le_refl _
    | cons kc r =>
      have hkc : kc ∈ ord.filter (keep g.t.seqno) := hl ▸ List.mem_cons_self
      exact Nat.le_trans (lowestL_getD_le_of_mem List.mem_cons_self)
        (h.keys kc (hp.subset (List.mem_filter.mp hkc).1))

end Inv

theorem step_inv (g : G) (o : Op) (hd : Disciplined g o) (h : Inv g) : Inv (stepG g o) := by
  cases o with
  | «open» => exact h.bump_cons h.below (Nat.le_refl _)
  | clone j => exact h.bump_cons (h.safe j hd) (h.keys _ (h.live_mem hd).2)
  | close j =>
    have hmid := h.decr_erase j (g.t.freed + 1)
    simp only [stepG, step]
    split
    · exact hmid.gc (List.Perm.refl _)
    · exact hmid
  | publish s => exact h.seqno_le (Nat.le_max_left _ _)
  | set v => exact h.seqno_le (Nat.le_max_left _ _)
  | gc ord => exact h.gc hd
  | pullup =>
    simp only [stepG, step]
    split
    · rename_i hempty
      -- an empty table counts no nonce: nothing is alive
      exact h.set_wm (fun i hi =>
        absurd (List.isEmpty_iff.mp hempty) (List.ne_nil_of_mem (h.live_mem hi).2)) (Nat.le_refl _)
    · exact h

theorem le_gcWith_wm (ord : List (Nat × Nat)) (t : Tracker) : t.wm ≤ (gcWith ord t).wm :=
  Nat.le_max_left _ _

theorem stepG_t (g : G) (o : Op) : (stepG g o).t = step g.t o := by cases o <;> rfl

/-- clause (C) of the invariant is what `pullup` needs: it *stores* `visible - 1` -/
theorem step_wm_mono (t : Tracker) (o : Op) (h : t.wm ≤ t.seqno - 1) : t.wm ≤ (step t o).wm := by
  cases o with
  | «open» | clone _ | publish _ | set _ => exact Nat.le_refl _
  | close j =>
    simp only [step]
    split
    · exact le_gcWith_wm _ _
    · exact Nat.le_refl _
  | gc ord => exact le_gcWith_wm _ _
  | pullup =>
    simp only [step]
    split
    · exact h
    · exact Nat.le_refl _

theorem wm_mono (g : G) (o : Op) (h : Inv g) : g.t.wm ≤ (stepG g o).t.wm :=
  stepG_t g o ▸ step_wm_mono g.t o h.below

end Fjall.Tracker
