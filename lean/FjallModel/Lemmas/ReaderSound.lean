/-
  The reader on arbitrary bytes, looking ahead from its state: a batch it hands out is authenticated by
  the input still to be read (`Emitted`), or it is the batch the reader is in and the head of the input
  completes it (`Completes`). What was consumed never has to be described: `Emitted` survives bytes put
  in front (`Emitted.append_left`), and between batches the reader holds nothing.
-/
import FjallModel.Lemmas.Reader
namespace Fjall.Journal
open Fjall

variable (p : Params) (c : Codec) (h : Bytes → Nat) (total : Nat)

inductive Parses : Bytes → List Entry → Prop
  | nil : Parses [] []
  | cons (cns rest : Bytes) (e : Entry) (es : List Entry) :
      (∀ r', decodeEntry p c (cns ++ r') = some (e, r')) → Parses rest es →
      Parses (cns ++ rest) (e :: es)

theorem Parses.single (cns : Bytes) (e : Entry)
    (hd : ∀ r', decodeEntry p c (cns ++ r') = some (e, r')) : Parses p c cns [e] := by
  have := Parses.cons (p := p) (c := c) cns [] e [] hd Parses.nil
  simpa using this

def Emitted (file : Bytes) (b : Batch) : Prop :=
  ∃ (pre seg post : Bytes) (es : List Entry) (sum : Nat),
    file = pre ++ seg ++ post ∧
    Parses p c seg (.start es.length b.seqno :: es ++ [.fin sum]) ∧
    (∀ e ∈ es, e.isPayload = true) ∧
    b.items = itemsOf es ∧ b.clears = clearsOf es ∧
    h (encodeBody p c es) = sum

def Completes (st : RState) (x : Bytes) (b : Batch) : Prop :=
  ∃ (seg r : Bytes) (es : List Entry) (sum : Nat),
    x = seg ++ r ∧ Parses p c seg (es ++ [.fin sum]) ∧ (∀ e ∈ es, e.isPayload = true) ∧
    es.length = st.counter ∧ h (st.acc ++ encodeBody p c es) = sum ∧
    b = ⟨st.seqno, st.items ++ itemsOf es, st.clears ++ clearsOf es⟩

variable {p c h}

theorem Emitted.append_left {x : Bytes} {b : Batch} (cns : Bytes) (he : Emitted p c h x b) :
    Emitted p c h (cns ++ x) b := by
  obtain ⟨pre, seg, post, es, sum, rfl, hrest⟩ := he
  exact ⟨cns ++ pre, seg, post, es, sum, by simp only [List.append_assoc], hrest⟩

/-- every branch in which the reader stops has this shape, and hands out nothing -/
theorem mem_batches_ite {q : Prop} [Decidable q] {l : Nat} {err : Option RErr} {R : ReadResult}
    {b : Batch} (hb : b ∈ (if q then ⟨[], l, err⟩ else R).batches) :
    ¬ q ∧ b ∈ R.batches := by
  split at hb
  · cases hb
  · exact ⟨‹_›, hb⟩

variable (p c h)

theorem readFrom_sound (st : RState) (x : Bytes)
    (hst : st.inBatch = false → st.items = [] ∧ st.clears = [] ∧ st.acc = []) (b : Batch)
    (hb : b ∈ (readFrom p c h total st x).batches) :
    Emitted p c h x b ∨ st.inBatch = true ∧ Completes p c h st x b := by
  induction hn : x.length using Nat.strongRecOn generalizing st x with
  | ind n ih =>
    cases hd : decodeEntry p c x with
    | none => rw [readFrom_none h total hd] at hb; cases hb
    | some er =>
      obtain ⟨e, r⟩ := er
      have hr : r.length < n := hn ▸ decodeEntry_lt p c x e r hd
      obtain ⟨cns, rfl, hloc⟩ := decodeEntry_local p c x e r hd
      cases e with
      | start k s =>
        rw [readFrom_start h total hd] at hb
        obtain ⟨hin, hb⟩ := mem_batches_ite hb
        obtain ⟨hi, hc, ha⟩ := hst (by simpa using hin)
        rcases ih _ hr _ r (fun hf => Bool.noConfusion hf) hb rfl with
          he | ⟨-, seg, r', es, sum, rfl, hps, hpl, rfl, rfl, rfl⟩
        · exact .inl (he.append_left cns)
        · -- the batch that starts here: nothing was held before it
          exact .inl ⟨[], cns ++ seg, r', es, _, (List.append_assoc ..).symm,
            .cons cns seg _ _ hloc hps, hpl, by simp [hi], by simp [hc], by simp [ha]⟩
      | fin sum =>
        rw [readFrom_fin h total hd] at hb
        obtain ⟨hcnt, hb⟩ := mem_batches_ite hb
        obtain ⟨hin, hb⟩ := mem_batches_ite hb
        obtain ⟨hsum, hb⟩ := mem_batches_ite hb
        rcases List.mem_cons.mp hb with rfl | hb
        · exact .inr ⟨by simpa using hin, cns, r, [], sum, rfl, .single p c cns _ hloc, nofun,
            (Nat.eq_zero_of_not_pos hcnt).symm, by simpa [encodeBody_nil] using hsum,
            by simp [itemsOf, clearsOf]⟩
        · rcases ih _ hr _ r (fun _ => ⟨rfl, rfl, rfl⟩) hb rfl with he | ⟨hin', -⟩
          · exact .inl (he.append_left cns)
          · cases hin'
      | item _ | clear _ =>
        rw [readFrom_payload h total hd rfl] at hb
        obtain ⟨hin, hb⟩ := mem_batches_ite hb
        obtain ⟨hcnt, hb⟩ := mem_batches_ite hb
        have hin : st.inBatch = true := by simpa using hin
        rcases ih _ hr (st.push p c _ _) r (fun hf => nomatch hin.symm.trans hf) hb rfl with
          he | ⟨-, seg, r', es, sum, rfl, hps, hpl, hlen, rfl, rfl⟩
        · exact .inl (he.append_left cns)
        · -- the entry read here is the first of those that were missing
          refine .inr ⟨hin, cns ++ seg, r', _ :: es, _, (List.append_assoc ..).symm,
            .cons cns seg _ _ hloc hps, List.forall_mem_cons.mpr ⟨rfl, hpl⟩, ?_, ?_, ?_⟩
          · rw [List.length_cons, hlen]
            exact Nat.sub_add_cancel (Nat.pos_of_ne_zero hcnt)
          · simp only [RState.push, encodeBody_cons, List.append_assoc]
          · simp only [RState.push, List.append_assoc]; rfl

end Fjall.Journal
