/-
  The commit-mutex thread model (Tx/CommitMutex.lean).  A thread that is not idle holds the mutex, so
  when thread `i` steps every other thread is idle (`others_idle`), which is what `Inv.ofStep` asks for; each
  finished commit extends the sequential execution by one atomic step (`Inv.finish`).
-/
import FjallModel.Tx.CommitMutex
import FjallModel.Lemmas.List
namespace Fjall.CommitMutex

variable {D T : Type}

structure Inv (m : Sem D T) (d0 : D) (s : State D T) : Prop where
  excl : ∀ i, (s.threads i).phase ≠ .idle → s.mutex = some i
  job : ∀ i, (s.threads i).phase ≠ .idle → (s.threads i).todo ≠ []
  base : (∀ i, (s.threads i).phase ≠ .validated) → s.db = (runAtomic m d0 (s.done.map (·.1))).1
  mid : ∀ i t rest, (s.threads i).phase = .validated → (s.threads i).todo = t :: rest →
      m.validate (runAtomic m d0 (s.done.map (·.1))).1 t = (s.db, true)
  verdicts : (runAtomic m d0 (s.done.map (·.1))).2 = s.done.map (·.2)

variable {m : Sem D T} {d0 : D} {s : State D T} {i : Nat}

theorem setThread_same (s : State D T) (i : Nat) (th : Thread T) : (s.setThread i th).threads i = th :=
  if_pos rfl

theorem setThread_ne (s : State D T) {i j : Nat} (th : Thread T) (h : j ≠ i) :
    (s.setThread i th).threads j = s.threads j := if_neg h

theorem init_inv (jobs : List (List T)) : Inv m d0 (init d0 jobs) where
  excl := fun _ h => absurd rfl h
  job := fun _ h => absurd rfl h
  base := fun _ => rfl
  mid := fun _ _ _ h => nomatch h
  verdicts := rfl

theorem others_idle (h : Inv m d0 s)
    (hi : s.mutex = none ∨ s.mutex = some i) (j : Nat) (hj : j ≠ i) : (s.threads j).phase = .idle :=
  Classical.byContradiction fun hp => lock_ne hi hj (h.excl j hp)

theorem Inv.holders_equal (h : Inv m d0 s) {j : Nat} (hi : (s.threads i).phase ≠ .idle)
    (hj : (s.threads j).phase ≠ .idle) : i = j :=
  Option.some.inj ((h.excl i hi).symm.trans (h.excl j hj))

/-- with the mutex free no thread is between validation and application -/
theorem Inv.free (h : Inv m d0 s) (hn : s.mutex = none) : s.db = (runAtomic m d0 (s.done.map (·.1))).1 :=
  h.base fun i hv => nomatch hn.symm.trans (h.excl i (hv ▸ nofun))

theorem Inv.ofStep
    (hoth : ∀ j, j ≠ i → (s.threads j).phase = .idle) (th' : Thread T) {db' : D} {mutex' : Option Nat}
    {done' : List (T × Bool)}
    (hexcl : th'.phase ≠ .idle → mutex' = some i ∧ th'.todo ≠ [])
    (hbase : th'.phase ≠ .validated → db' = (runAtomic m d0 (done'.map (·.1))).1)
    (hmid : ∀ t rest, th'.phase = .validated → th'.todo = t :: rest →
      m.validate (runAtomic m d0 (done'.map (·.1))).1 t = (db', true))
    (hverd : (runAtomic m d0 (done'.map (·.1))).2 = done'.map (·.2)) :
    Inv m d0 ({ db := db', mutex := mutex', threads := s.threads, done := done' : State D T }.setThread i th') := by
  have key : ∀ j, ((State.setThread ⟨db', mutex', s.threads, done'⟩ i th').threads j).phase ≠ .idle → j = i :=
    fun j hj => Classical.byContradiction fun hji => hj (by rw [setThread_ne _ _ hji]; exact hoth j hji)
  refine ⟨fun j hj => ?_, fun j hj => ?_, fun hall => hbase ?_, fun j t rest hj => ?_, hverd⟩
  · obtain rfl := key j hj; rw [setThread_same] at hj; exact (hexcl hj).1
  · obtain rfl := key j hj; rw [setThread_same] at hj ⊢; exact (hexcl hj).2
  · have := hall i; rwa [setThread_same] at this
  · obtain rfl := key j (by rw [hj]; exact Phase.noConfusion)
    rw [setThread_same] at hj ⊢; exact hmid t rest hj

theorem Inv.finish (h : Inv m d0 s) (hph : (s.threads i).phase ≠ .idle) {t : T} {d' : D} {b : Bool}
    {mutex' : Option Nat} (tl : List T) (hat : m.atomic (runAtomic m d0 (s.done.map (·.1))).1 t = (d', b)) :
    Inv m d0 ({ db := d', mutex := mutex', threads := s.threads, done := s.done ++ [(t, b)] : State D T }.setThread i
      { todo := tl, phase := .idle }) := by
  have hs : runAtomic m d0 ((s.done ++ [(t, b)]).map (·.1)) = (d', (s.done ++ [(t, b)]).map (·.2)) := by
    have hv := h.verdicts
    simp only [runAtomic, List.map_append, List.foldl_append, List.map_cons, List.map_nil, List.foldl_cons,
      List.foldl_nil, atomicStep] at hv hat ⊢
    rw [hat, hv]
  exact Inv.ofStep (others_idle h (.inr (h.excl i hph))) _ (fun hp => absurd rfl hp)
    (fun _ => (congrArg Prod.fst hs).symm) (fun _ _ hv => nomatch hv) (congrArg Prod.snd hs)

theorem step_inv (cfg : Cfg) (hc : cfg.holdAcross = true) (i : Nat) (h : Inv m d0 s) :
    Inv m d0 (stepT cfg m s i) := by
  unfold stepT
  cases htodo : (s.threads i).todo with
  | nil => exact h
  | cons t rest =>
  have hne : (s.threads i).todo ≠ [] := by rw [htodo]; exact List.cons_ne_nil _ _
  have noneMid : (∀ j, j ≠ i → (s.threads j).phase = .idle) → (s.threads i).phase ≠ .validated →
      ∀ j, (s.threads j).phase ≠ .validated := fun hoth hi j => by
    by_cases hji : j = i
    · exact hji ▸ hi
    · rw [hoth j hji]; exact Phase.noConfusion
  unfold stepJ
  rw [hc]
  cases hph : (s.threads i).phase with
  | idle =>
    dsimp only
    by_cases hm : s.mutex.isNone = true
    · rw [if_pos hm]
      have hoth := others_idle h (i := i) (.inl (Option.isNone_iff_eq_none.mp hm))
      exact Inv.ofStep hoth _ (fun _ => ⟨rfl, hne⟩)
        (fun _ => h.base (noneMid hoth (hph ▸ nofun))) (fun _ _ hv => nomatch hv) h.verdicts
    · rw [if_neg hm]; exact h
  | locked =>
    dsimp only
    have hmx := h.excl i (hph ▸ nofun)
    have hoth := others_idle h (.inr hmx)
    have hbase := h.base (noneMid hoth (hph ▸ nofun))
    by_cases hv : (m.validate s.db t).2 = true
    · rw [if_pos hv]
      refine Inv.ofStep hoth _ (fun _ => ⟨hmx, hne⟩) (fun hp => absurd rfl hp) (fun t' rest' _ htd => ?_) h.verdicts
      obtain ⟨rfl, -⟩ := List.cons.inj (htodo.symm.trans htd)
      rw [← hbase, ← hv]
    · rw [if_neg hv]
      exact h.finish (hph ▸ nofun) _ (by rw [← hbase]; simp only [Sem.atomic, hv, if_false, Bool.false_eq_true])
  | validated =>
    dsimp only
    exact h.finish (hph ▸ nofun) _ (by simp only [Sem.atomic, h.mid i t rest hph htodo, if_true])

theorem run_inv (cfg : Cfg) (hc : cfg.holdAcross = true) (sched : List Nat) (h : Inv m d0 s) :
    Inv m d0 (run cfg m s sched) :=
  List.foldlRecOn (motive := Inv m d0) sched _ h fun _ hs i _ => step_inv cfg hc i hs

end Fjall.CommitMutex
