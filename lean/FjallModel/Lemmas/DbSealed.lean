/-
  `DbL.recover` folds over the sealed journals with all keyspaces at once and re-seals the
  memtables after each journal.  Two states that differ only in how the unflushed records are split
  between sealed and active memtables (`Rel`) have the same `sealMem`, and replay
  respects `Rel`; so sealing after every journal is sealing once (`seal_journal`), and `recover` is, keyspace
  by keyspace, in closed form (`recover_kss_eq`): replay the sealed journals' records above the persisted
  seqno, seal, replay the active journal's.  The branch of `sealAfterReplay` that drops memtables is
  dead under the repaired skip rule.
-/
import FjallModel.Lemmas.DbBasics
namespace Fjall.Db
open Fjall Fjall.Spec

structure Rel (a b : KsL) : Prop where
  id : a.id = b.id
  name : a.name = b.name
  tables : a.tables = b.tables
  persisted : a.persisted = b.persisted
  memory : a.sealedMem ++ a.mem = b.sealedMem ++ b.mem

theorem stepKs_rel (r : Rec) (a b : KsL) (h : Rel a b) : Rel (stepKs r a) (stepKs r b) := by
  by_cases hr : r.ks = b.id
  · have hra := hr.trans h.id.symm
    rcases stepKs_mine r b hr with ⟨hc, e⟩ | ⟨hc, e⟩ <;> rw [e]
    · rw [stepKs_noClear r a hra hc]
      exact ⟨h.id, h.name, h.tables, h.persisted, by simp only [← List.append_assoc, h.memory]⟩
    · rw [stepKs_clear r a hra hc]
      exact ⟨h.id, h.name, rfl, rfl, rfl⟩
  · rwa [stepKs_other r a (h.id ▸ hr), stepKs_other r b hr]

theorem replayKs_rel (recs : List Rec) (a b : KsL) (h : Rel a b) : Rel (replayKs a recs) (replayKs b recs) := by
  induction recs generalizing a b with
  | nil => exact h
  | cons r rs ih => exact ih _ _ (stepKs_rel r a b h)

theorem sealMem_rel (a : KsL) : Rel (sealMem a) a := by
  rw [sealMem_eq]; exact ⟨rfl, rfl, rfl, rfl, by simp⟩

theorem Rel.seal {a b : KsL} (h : Rel a b) : sealMem a = sealMem b := by
  rw [sealMem_eq, sealMem_eq, h.id, h.name, h.tables, h.persisted, h.memory]

theorem sealMem_idem (a : KsL) : sealMem (sealMem a) = sealMem a := (sealMem_rel a).seal

theorem replayWatermarks_eq (kss : List KsL) (recs : List Rec) :
    replayWatermarks kss recs =
      kss.filterMap fun k => (maxSeqno (recs.filter (·.ks = k.id))).map fun p => (k.id, p) := by
  -- the fold from 0 and `maxSeqno`'s fold from `none` find the same maximum
  have hmax : ∀ (rs : List Rec) (a : Nat),
      rs.foldl maxStep (some a) = some (rs.foldl (fun a r => max a r.seqno) a) := fun rs => by
    induction rs with
    | nil => exact fun _ => rfl
    | cons r rs ih => exact fun a => ih _
  unfold replayWatermarks
  congr 1; funext k
  cases recs.filter (·.ks = k.id) with
  | nil => rfl
  | cons r rs =>
    show some (k.id, rs.foldl _ (max 0 r.seqno)) = (rs.foldl maxStep (some r.seqno)).map _
    rw [hmax, Nat.zero_max]; rfl

theorem replayWatermarks_map (kss : List KsL) (f : KsL → KsL) (hf : ∀ k, (f k).id = k.id) (recs : List Rec) :
    replayWatermarks (kss.map f) recs = replayWatermarks kss recs := by
  simp only [replayWatermarks, List.filterMap_map, Function.comp_def, hf]

def sealOrDrop (k : KsL) : Option Nat → KsL
  | none => k
  | some lsn =>
    match k.persisted with
    | some p => if lsn ≤ p then { k with sealedMem := [], mem := [] } else sealMem k
    | none => sealMem k

theorem sealOrDrop_some (k : KsL) (lsn : Nat) (h : ∀ p, k.persisted = some p → p < lsn) :
    sealOrDrop k (some lsn) = sealMem k := by
  unfold sealOrDrop
  cases hp : k.persisted with
  | none => rfl
  | some p => exact if_neg (Nat.not_le.mpr (h p hp))

theorem sealAfterReplay_eq (kss : List KsL) (wms : List (KsId × Nat)) :
    sealAfterReplay kss wms = kss.map fun k => sealOrDrop k (wms.lookup k.id) := by
  unfold sealAfterReplay
  exact List.map_congr_left fun k _ => by cases wms.lookup k.id <;> rfl

theorem filter_needsReplay_ks (pb : List (KsId × Nat)) (k : KsL) (hpb : pb.lookup k.id = k.persisted) (recs : List Rec) :
    (recs.filter (needsReplay pb)).filter (fun r => r.ks = k.id) =
      (recs.filter fun r => r.ks = k.id).filter (above k.persisted) := by
  rw [filter_comm]
  refine List.filter_congr fun r hr => ?_
  rw [needsReplay, of_decide_eq_true (List.mem_filter.mp hr).2, hpb]

def sealedKs (k : KsL) (seen : List Rec) : KsL := sealMem (replayKs { k with sealedMem := [], mem := [] } seen)

theorem sealedKs_rel (k : KsL) (seen : List Rec) :
    Rel (sealedKs k seen) (replayKs { k with sealedMem := [], mem := [] } seen) := sealMem_rel _

theorem sealedKs_id (k : KsL) (seen : List Rec) : (sealedKs k seen).id = k.id := by
  rw [(sealedKs_rel k seen).id, replayKs_id]

theorem sealedKs_nil (k : KsL) : sealedKs k [] = { k with sealedMem := [], mem := [] } := rfl

theorem sealedKs_replay_rel (k : KsL) (seen mine : List Rec) :
    Rel (replayKs (sealedKs k seen) mine) (replayKs { k with sealedMem := [], mem := [] } (seen ++ mine)) := by
  rw [replayKs_append]; exact replayKs_rel mine _ _ (sealedKs_rel k seen)

/-- what recovery does to one keyspace for one sealed journal, `mine` being the journal's records that are
    replayed into it -/
theorem seal_journal (k : KsL) (seen mine : List Rec) (hab : ∀ r ∈ mine, above k.persisted r = true) :
    sealOrDrop (replayKs (sealedKs k seen) mine) (maxSeqno mine) = sealedKs k (seen ++ mine) := by
  have hrel := sealedKs_replay_rel k seen mine
  refine .trans ?_ hrel.seal
  cases mine with
  | nil => exact (sealMem_idem _).symm
  | cons r0 rs =>
    -- the watermark is at least `r0.seqno`, and `r0` passed the skip rule
    obtain ⟨lsn, hw, hle⟩ := maxSeqno_ge (r0 :: rs) r0 (by simp)
    rw [hw]
    refine sealOrDrop_some _ lsn fun p hp => Nat.lt_of_lt_of_le ?_ hle
    rw [hrel.persisted] at hp
    rcases replayKs_persisted { k with sealedMem := [], mem := [] } (seen ++ r0 :: rs) with e | e <;> rw [e] at hp
    · exact (above_iff _ _).mp (hab r0 (by simp)) p hp
    · cases hp

theorem recover_fold (pb : List (KsId × Nat)) (kss : List KsL) (hnd : (kss.map (·.id)).Nodup)
    (hpb : ∀ k ∈ kss, pb.lookup k.id = k.persisted) (js : List JournalL) (seen : KsL → List Rec) (out : List JournalL) :
    js.foldl (fun (acc : List KsL × List JournalL) j =>
      let (kss, out) := acc
      let recs := j.recs.filter (needsReplay pb)
      let kss' := recs.foldl replayRec kss
      let wms := replayWatermarks kss' recs
      (sealAfterReplay kss' wms, out ++ [{ j with watermarks := wms }]))
      (kss.map fun k => sealedKs k (seen k), out)
    = (kss.map fun k => sealedKs k (seen k ++ ((js.flatMap (·.recs)).filter fun r => r.ks = k.id).filter (above k.persisted)),
       out ++ js.map fun j => { j with watermarks := replayWatermarks kss (j.recs.filter (needsReplay pb)) }) := by
  induction js generalizing seen out with
  | nil => simp
  | cons j js ih =>
    have hstep : sealAfterReplay
        ((kss.map fun k => sealedKs k (seen k)).map fun k => replayKs k (j.recs.filter (needsReplay pb)))
        (replayWatermarks kss (j.recs.filter (needsReplay pb))) =
        kss.map fun k => sealedKs k (seen k ++ (j.recs.filter fun r => r.ks = k.id).filter (above k.persisted)) := by
      rw [sealAfterReplay_eq, replayWatermarks_eq, List.map_map, List.map_map]
      refine List.map_congr_left fun k hk => ?_
      simp only [Function.comp, replayKs_id, sealedKs_id, lookup_byId kss _ hnd k hk]
      rw [replayKs_filter, sealedKs_id, filter_needsReplay_ks pb k (hpb k hk)]
      exact seal_journal k (seen k) _ fun r hr => (List.mem_filter.mp hr).2
    simp only [List.foldl_cons]
    rw [foldl_replayRec, replayWatermarks_map _ _ fun k => replayKs_id k _,
      replayWatermarks_map _ _ fun k => sealedKs_id k _, hstep, ih]
    simp [List.filter_append]

def recoverKs (db : DbL) (k : KsL) : KsL :=
  replayKs (sealedKs k (((db.sealed.flatMap (·.recs)).filter fun r => r.ks = k.id).filter (above k.persisted)))
    ((db.active.recs.filter fun r => r.ks = k.id).filter (above k.persisted))

theorem recoverKs_id (db : DbL) (k : KsL) : (recoverKs db k).id = k.id := by
  rw [recoverKs, replayKs_id, sealedKs_id]

theorem recover_pb (db : DbL) : (List.filterMap (fun k => Option.map (fun p => (k.id, p)) k.persisted)
    (db.kss.map fun k => ({ k with sealedMem := [], mem := [] } : KsL))) = pbOf db := by
  simp only [pbOf, List.filterMap_map]; rfl

theorem recover_eq (db : DbL) (hnd : (db.kss.map (·.id)).Nodup) :
    db.recover.kss = db.kss.map (recoverKs db) ∧
    db.recover.sealed = db.sealed.map fun j =>
      { j with watermarks := replayWatermarks db.kss (j.recs.filter (needsReplay (pbOf db))) } := by
  have hf := recover_fold (pbOf db) db.kss hnd (lookup_pb db hnd) db.sealed (fun _ => []) []
  simp only [sealedKs_nil, List.nil_append] at hf
  simp only [DbL.recover, recover_pb]
  rw [hf, foldl_replayRec, List.map_map]
  refine ⟨List.map_congr_left fun k hk => ?_, rfl⟩
  simp only [Function.comp, recoverKs]
  rw [replayKs_filter, sealedKs_id, filter_needsReplay_ks _ k (lookup_pb db hnd k hk)]

theorem recover_kss_eq (db : DbL) (hnd : (db.kss.map (·.id)).Nodup) : db.recover.kss = db.kss.map (recoverKs db) :=
  (recover_eq db hnd).1

/-- what it leaves sealed comes from the sealed journals and what it leaves active from the active journal:
    that is what orders the two after recovery -/
theorem recoverKs_rel (db : DbL) (k : KsL) :
    Rel (recoverKs db k) (replayKs { k with sealedMem := [], mem := [] }
      (((db.sealed.flatMap (·.recs) ++ db.active.recs).filter fun r => r.ks = k.id).filter (above k.persisted))) ∧
    (∀ x ∈ (recoverKs db k).sealedMem, x ∈ db.sealed.flatMap (·.recs)) ∧
    (∀ y ∈ (recoverKs db k).mem, y ∈ db.active.recs) := by
  unfold recoverKs
  refine ⟨?_, fun x hx => ?_, fun y hy => ?_⟩
  · rw [List.filter_append, List.filter_append]
    exact sealedKs_replay_rel k _ _
  · have := replayKs_sealedMem_sub _ _ x hx
    rw [sealedKs, sealMem_eq] at this
    exact (List.mem_filter.mp (List.mem_filter.mp ((replayKs_memory_sub _ _ x this).resolve_left List.not_mem_nil)).1).1
  · have := (replayKs_mem_sub _ _ y hy).resolve_left (by rw [sealedKs, sealMem_eq]; exact List.not_mem_nil)
    exact (List.mem_filter.mp (List.mem_filter.mp this).1).1

end Fjall.Db
