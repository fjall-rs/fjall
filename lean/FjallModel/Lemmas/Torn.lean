/-
  The torn tail: the entry under the cut fails to decode or decodes to an entry of the same kind
  that swallows the surviving bytes, so that only padding follows (`spanning`); an End marker
  under the cut never decodes, because the trailer's last byte is not zero (`spanning_fin`).
-/
import FjallModel.Lemmas.Reader
import FjallModel.Lemmas.List
namespace Fjall.Journal
open Fjall

variable (p : Params) (c : Codec) (h : Bytes → Nat) (total : Nat)

theorem spanning (hp : p.Valid) (hc : c.Law) (e : Entry) (he : e.WF c) (n m : Nat)
    (hn : n < (encodeEntry p c e).length) :
    decodeEntry p c ((encodeEntry p c e).take n ++ zeros m) = none ∨
    ∃ e' m', decodeEntry p c ((encodeEntry p c e).take n ++ zeros m) = some (e', zeros m') ∧
      e'.tag p = e.tag p := by
  cases hd : decodeEntry p c ((encodeEntry p c e).take n ++ zeros m) with
  | none => exact .inl rfl
  | some res =>
    obtain ⟨e', r'⟩ := res
    have henc := decode_encode p c hp hc e he []
    rw [List.append_nil] at henc
    obtain ⟨z1, hz⟩ := (decodeEntry_local p c).of_cut henc hn hd
    refine .inr ⟨e', r'.length, congrArg (fun r => some (e', r))
      (List.append_eq_replicate_iff.mp hz.symm).2.2, ?_⟩
    -- at least the tag byte survived: all-zero input does not decode
    obtain ⟨t, ht⟩ := encodeEntry_head p c e
    cases n with
    | zero => rw [List.take_zero, List.nil_append, decodeEntry_zeros c hp] at hd; cases hd
    | succ k =>
      rw [ht, List.take_succ_cons, List.cons_append] at hd
      exact decodeEntry_tag hd

variable {p c}

theorem tag_payload (hp : p.Valid) {e e' : Entry} (hpl : e.isPayload = true)
    (ht : e'.tag p = e.tag p) : e'.isPayload = true := by
  cases e' with
  | item | clear => rfl
  | start => obtain ⟨_, _, rfl⟩ := tag_start hp ht.symm; cases hpl
  | fin => obtain ⟨_, rfl⟩ := tag_fin hp ht.symm; cases hpl

theorem spanning_fin (hp : p.Valid) (hc : c.Law) (s : Nat) (hs : s < 2^64) (n m : Nat)
    (hn : n < (encodeEntry p c (.fin s)).length) :
    decodeEntry p c ((encodeEntry p c (.fin s)).take n ++ zeros m) = none := by
  rcases spanning p c hp hc (.fin s) hs n m hn with hnone | ⟨e', m', hd, ht⟩
  · exact hnone
  · exfalso
    obtain ⟨s', rfl⟩ := tag_fin hp ht
    rw [encodeEntry_fin_length] at hn
    -- where the trailer's last byte belongs, the cut input has padding or nothing
    have hbyte := congrArg (·[8 + p.magic.length]?) (decodeEntry_fin_inv hp hd)
    simp only [zeros] at hbyte
    rw [List.getElem?_append_right (by rw [List.length_take, encodeEntry_fin_length]; omega),
      List.getElem?_append_left (by rw [encodeEntry_fin_length]; omega), List.getElem?_replicate,
      encodeEntry_fin_last p c s' hp.magic_ne_nil] at hbyte
    split at hbyte
    · exact hp.magic_last_ne_zero hbyte.symm
    · exact hp.magic_ne_nil (List.getLast?_eq_none_iff.mp hbyte.symm)

theorem torn_rest (hp : p.Valid) (hc : c.Law) (es : List Entry)
    (hes : ∀ e ∈ es, e.isPayload = true ∧ e.WF c) (sum : Nat) (hs : sum < 2^64)
    (st : RState) (hin : st.inBatch = true) (hcnt : es.length ≤ st.counter) (n m : Nat)
    (hn : n < (encodeBody p c es ++ encodeEntry p c (.fin sum)).length) :
    readFrom p c h total st
      ((encodeBody p c es ++ encodeEntry p c (.fin sum)).take n ++ zeros m)
      = ⟨[], st.lastValid, none⟩ := by
  induction es generalizing st n with
  | nil =>
    rw [encodeBody_nil, List.nil_append] at hn ⊢
    rw [readFrom_none h total (spanning_fin hp hc sum hs n m hn), stopLen_inBatch st hin]
  | cons e es ih =>
    obtain ⟨he, hes⟩ := List.forall_mem_cons.mp hes
    rw [List.length_cons] at hcnt
    have hpos : 0 < st.counter := Nat.lt_of_lt_of_le (Nat.succ_pos _) hcnt
    rw [encodeBody_cons, List.append_assoc] at hn ⊢
    rcases take_append_cut _ _ n hn with ⟨hlt, ht⟩ | ⟨k, hk, ht⟩ <;> rw [ht]
    · -- what is read in place of the cut `e`, if anything, is a payload entry too; then padding
      rcases spanning p c hp hc e he.2 n m hlt with hnone | ⟨e', m', hd, ht⟩
      · rw [readFrom_none h total hnone, stopLen_inBatch st hin]
      · rw [readFrom_payload h total hd (tag_payload hp he.1 ht), hin, if_neg (by simp),
          if_neg (Nat.ne_of_gt hpos), readFrom_none h total (decodeEntry_zeros c hp m')]
        exact congrArg (ReadResult.mk [] · none) (stopLen_inBatch _ hin)
    · rw [List.append_assoc, readFrom_payload_enc h total hp hc st e he.1 he.2 hin hpos]
      exact ih hes (st.push p c e _) hin (Nat.le_sub_one_of_lt hcnt) k hk

theorem torn_batch (hp : p.Valid) (hc : c.Law) (hh : ∀ x, h x < 2^64) (b : WBatch) (hb : b.WF c)
    (s q n m : Nat) (hn : n < (encodeBatch p c h b).length) :
    readFrom p c h total (cleanAt s q) ((encodeBatch p c h b).take n ++ zeros m)
      = ⟨[], q, none⟩ := by
  obtain ⟨hlen, hseq, hes⟩ := hb
  simp only [encodeBatch, List.append_assoc] at hn ⊢
  rcases take_append_cut _ _ n hn with ⟨hlt, ht⟩ | ⟨k, hk, ht⟩ <;> rw [ht]
  · rcases spanning p c hp hc (.start b.entries.length b.seqno) ⟨hlen, hseq⟩ n m hlt with
      hnone | ⟨e', m', hd, ht⟩
    · rw [readFrom_none h total hnone, stopLen_cleanAt]
    · obtain ⟨n', s', rfl⟩ := tag_start hp ht
      rw [readFrom_start h total hd, if_neg (by simp [cleanAt]),
        readFrom_none h total (decodeEntry_zeros c hp m')]
      -- all or nothing: a Start marker does not move `lastValid`, so the reader stops at `q`
      rfl
  · rw [List.append_assoc,
      readFrom_start h total (decode_encode p c hp hc (.start _ _) ⟨hlen, hseq⟩ _),
      if_neg (by simp [cleanAt]),
      torn_rest h total hp hc b.entries hes _ (hh _) _ rfl (Nat.le_refl _) k m hk]
    rfl

end Fjall.Journal
