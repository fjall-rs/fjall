/-
  One keyspace's tree against its reference map (`TRel`) through every operation of `kvStep`.
  Inside a batch the entries share one seqno (`BRel`); the single write is the batch of one item.
-/
import FjallModel.Mvcc.Kv
import FjallModel.Lemmas.Mvcc
import FjallModel.Lemmas.Spec

namespace Fjall.Mvcc
open Fjall Fjall.Spec

theorem empty_inv : Inv ({} : Tree) := ⟨⟨fun _ h => (nomatch h), trivial⟩, List.Pairwise.nil⟩

theorem empty_abs (inst : Option Nat) (k : Key) : ({} : Tree).absGet inst k = none := rfl

theorem absMap_get (t : Tree) (inst : Option Nat) (k : Key) :
    (t.absMap inst).get k = t.absGet inst k := by
  rw [Tree.absMap, get_map_key]
  split
  · rfl
  · rename_i hne
    rw [Tree.absGet, newestIn_none.mpr fun d hd hk => hne ⟨d, hd, hk.1⟩]
    rfl

structure TRel (t : Tree) (s : Nat) (m : KMap) : Prop where
  inv : Inv t
  below : ∀ e ∈ t.comps.flatten, e.seqno < s
  abs : ∀ k, t.absGet none k = m.get k

theorem absMap_equiv {t : Tree} {s : Nat} {m : KMap} (h : TRel t s m) : (t.absMap none).Equiv m :=
  fun k => (absMap_get t none k).trans (h.abs k)

theorem TRel.mono {t : Tree} {s s' : Nat} {m : KMap} (h : TRel t s m) (hs : s ≤ s') : TRel t s' m :=
  ⟨h.inv, fun e he => Nat.lt_of_lt_of_le (h.below e he) hs, h.abs⟩

theorem itemEntry_toVal (s : Nat) (k : Key) (v : Option Val) : (itemEntry s k v).toVal = v := by
  cases v <;> simp [itemEntry, VEntry.toVal]

theorem itemEntry_key (s : Nat) (k : Key) (v : Option Val) : (itemEntry s k v).key = k := by
  cases v <;> rfl

theorem itemEntry_seqno (s : Nat) (k : Key) (v : Option Val) : (itemEntry s k v).seqno = s := by
  cases v <;> rfl

/-- a tree in the middle of a batch at seqno `s`: the batch's own items sit in the memtable only -/
structure BRel (t : Tree) (s : Nat) (m : KMap) : Prop extends TRel t (s + 1) m where
  lower : ∀ e ∈ (t.sealed ++ t.tables).flatten, e.seqno < s

theorem TRel.toBRel {t : Tree} {s : Nat} {m : KMap} (h : TRel t s m) : BRel t s m :=
  ⟨h.mono (Nat.le_succ s), fun e he => h.below e (List.mem_append_right _ he)⟩

theorem applyR_brel {t : Tree} {s : Nat} {m : KMap} (h : BRel t s m) (k : Key) (v : Option Val) :
    BRel (t.applyR (itemEntry s k v)) s ((k, v) :: m) := by
  obtain ⟨hi, ha⟩ := applyR_inv_abs t (itemEntry s k v) h.inv
    (fun d hd _ => by rw [itemEntry_seqno]; exact Nat.le_of_lt_succ (h.below d (List.mem_append_left _ hd)))
    (fun d hd _ => by rw [itemEntry_seqno]; exact h.lower d hd)
  refine ⟨⟨hi, fun e he => ?_, fun k' => ?_⟩, h.lower⟩
  · rw [applyR_comps, List.flatten_cons, List.cons_append, List.mem_cons] at he
    rcases he with rfl | he
    · rw [itemEntry_seqno]; exact Nat.lt_succ_self s
    · exact h.below e ((List.filter_sublist.append (List.Sublist.refl _)).subset he)
  · rw [ha, itemEntry_key, itemEntry_toVal, KMap.get, h.abs]

theorem apply_trel {t : Tree} {s : Nat} {m : KMap} (h : TRel t s m) (k : Key) (v : Option Val) :
    TRel (t.apply (itemEntry s k v)) (s + 1) ((k, v) :: m) := by
  rw [← applyR_eq_apply t _ fun d hd _ => by rw [itemEntry_seqno]; exact h.below d hd]
  exact (applyR_brel h.toBRel k v).toTRel

theorem applyItems_rel (items : List (KsId × Key × Option Val)) (s : Nat)
    (trees : KsId → Tree) (m : KsId → KMap) (h : ∀ ks, BRel (trees ks) s (m ks)) :
    ∀ ks, BRel (applyItems trees s items ks) s (specItems m items ks) := by
  induction items generalizing trees m with
  | nil => exact h
  | cons it r ih =>
    obtain ⟨ks0, k0, v0⟩ := it
    refine ih _ _ fun ks => ?_
    by_cases hks : ks = ks0
    · rw [if_pos hks, if_pos hks]; exact applyR_brel (h ks0) k0 v0
    · rw [if_neg hks, if_neg hks]; exact h ks

theorem TRel.of_maintained {t t' : Tree} {s s' : Nat} {m : KMap} (h : TRel t s m) (hs : s ≤ s')
    (h' : Maintained t t') : TRel t' s' m :=
  ⟨h'.inv, fun e he => Nat.lt_of_lt_of_le (h.below e (h'.sub e he)) hs, fun k => (h'.abs k).trans (h.abs k)⟩

theorem empty_trel (s : Nat) : TRel {} s [] := ⟨empty_inv, fun _ h => (nomatch h), fun _ => rfl⟩

theorem ingest_trel {t : Tree} {s : Nat} {m : KMap} (h : TRel t s m) (g : Nat) (hg : s ≤ g)
    (items : List (Key × Option Val)) (hne : items ≠ []) (hnd : (items.map (·.1)).Nodup) :
    TRel (t.ingest g items) (g + 1) (items.reverse ++ m) := by
  have h0 := h.of_maintained (Nat.le_refl s) (rotate_maintained t h.inv)
  have h1 := h0.of_maintained hg (flush_maintained t.rotate 0 h0.inv)
  generalize hR : (items.map fun x => itemEntry g x.1 x.2) = R
  have hRg : ∀ e ∈ R, e.seqno = g := fun e he => by
    obtain ⟨p, _, rfl⟩ := List.mem_map.mp (hR ▸ he); exact itemEntry_seqno ..
  have hc : Cross R (t.rotate.flush 0).comps.flatten := fun e he d hd _ => hRg e he ▸ h1.below d hd
  have hdR : Distinct R := by
    rw [← hR, Distinct, List.pairwise_map]
    exact (List.pairwise_map.mp hnd).imp fun hab hk => by
      rw [itemEntry_key, itemEntry_key] at hk; exact absurd hk hab
  have hf : (t.ingest g items).comps.flatten = R ++ (t.rotate.flush 0).comps.flatten := by
    rw [ingest_comps t g items hne, hR, rotate_flush_comps]; rfl
  have ho : Ordered (t.ingest g items).comps := by
    have ho1 := h1.inv.ordered
    rw [rotate_flush_comps] at hc ho1
    rw [ingest_comps t g items hne, hR]
    exact ordered_cons.mpr ⟨nofun, ordered_cons.mpr ⟨hc, ho1.2⟩⟩
  obtain ⟨hi, ha⟩ := push_inv_abs h1.inv hf ho hdR hc
  refine ⟨hi, fun e he => ?_, fun k => ?_⟩
  · rcases List.mem_append.mp (hf ▸ he) with he | he
    · rw [hRg e he]; exact Nat.lt_succ_self g
    · exact Nat.lt_succ_of_lt (h1.below e he)
  · -- a key the run names reads from it, any other as before; the run shows the first item of a
    -- key and the map the last: by `hnd` there is one
    rw [ha]
    cases hn : newestIn none k R with
    | none =>
      rw [Option.none_or, get_append_of_not_mem]
      · exact h1.abs k
      intro p hp hk
      exact newestIn_none.mp hn _ (hR ▸ List.mem_map_of_mem (List.mem_reverse.mp hp))
        ⟨(itemEntry_key ..).trans hk, rfl⟩
    | some e =>
      obtain ⟨he, rfl, -⟩ := newestIn_mem hn
      obtain ⟨p, hp, rfl⟩ := List.mem_map.mp (hR ▸ he)
      have hnd' : (items.reverse.map (·.1)).Nodup := List.map_reverse ▸ (List.reverse_perm _).symm.nodup hnd
      rw [itemEntry_key, Option.some_or, get_append_of_mem _ _ p.1 p.2 hnd' (List.mem_reverse.mpr hp)]
      exact itemEntry_toVal ..

theorem get_scan_agree (t : Tree) (inst : Option Nat) (ho : Ordered t.comps) (k : Key) (v : Val) :
    (k, v) ∈ (t.absMap inst).toList ↔ t.pointGet inst k = some v := by
  rw [mem_toList, absMap_get, Tree.pointGet, Tree.absGet, firstHit_eq_newestIn ho]

end Fjall.Mvcc
