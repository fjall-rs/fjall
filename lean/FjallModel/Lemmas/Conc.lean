/-
  The state invariant of the Conc model (C05, C06, store part of C14).  Its centre is the *horizon*:
  the seqno below which every journaled write is in the memtables entirely.  `open` never hands out
  an instant above it (that is what the write floor is for), so a view reads complete writes only;
  the GC watermark stays below every view.  One lemma per kind of effect a step has; `inv_locked` /
  `inv_free` put them together.
-/
import FjallModel.Conc.Model
import FjallModel.Lemmas.List
namespace Fjall.Conc
open Fjall.Spec

theorem best_append (ks : KsId) (key : Key) (b : Option Nat) (l1 l2 : List Entry) (acc : Option Entry) :
    best ks key b (l1 ++ l2) acc = best ks key b l2 (best ks key b l1 acc) := by
  induction l1 generalizing acc with
  | nil => rfl
  | cons e r ih =>
    simp only [List.cons_append, best]
    split
    · cases acc with
      | none => exact ih _
      | some a => simp only; split <;> exact ih _
    · exact ih _

theorem best_nohit (ks : KsId) (key : Key) (b : Option Nat) (l : List Entry) (acc : Option Entry)
    (h : ∀ e ∈ l, e.hit ks key b = false) : best ks key b l acc = acc := by
  induction l generalizing acc with
  | nil => rfl
  | cons e r ih =>
    simp only [best, h e (by simp)]
    exact ih acc (fun e' he' => h e' (by simp [he']))

theorem lookup_append_invisible (l1 l2 : List Entry) (ks : KsId) (key : Key) (i : Nat)
    (h : ∀ e ∈ l2, i ≤ e.seqno) : lookup (l1 ++ l2) ks key (some i) = lookup l1 ks key (some i) := by
  simp only [lookup, best_append]
  rw [best_nohit _ _ _ l2]
  intro e he
  have := h e he
  simp only [Entry.hit, below, Bool.and_eq_false_iff, decide_eq_false_iff_not]
  right; omega

theorem map_entry_seqno (sq : Nat) (items : List Item) : ∀ e ∈ items.map (Item.entry sq), e.seqno = sq := by
  intro e he
  obtain ⟨it, _, rfl⟩ := List.mem_map.mp he
  rfl

theorem lookup_append_batch (l : List Entry) (sq : Nat) (items : List Item) (ks : KsId) (key : Key) {i : Nat}
    (h : i ≤ sq) : lookup (l ++ items.map (Item.entry sq)) ks key (some i) = lookup l ks key (some i) :=
  lookup_append_invisible _ _ _ _ _ fun e he => by rw [map_entry_seqno _ _ e he]; exact h

theorem specStore_append (a b : List (Nat × List Item)) : specStore (a ++ b) = specStore a ++ specStore b := by
  simp [specStore]

theorem specStore_single (sq : Nat) (items : List Item) : specStore [(sq, items)] = items.map (Item.entry sq) := by
  simp [specStore]

theorem specStore_seqno_mem (bs : List (Nat × List Item)) (e : Entry) (he : e ∈ specStore bs) :
    ∃ b ∈ bs, e.seqno = b.1 := by
  simp only [specStore, List.mem_flatMap, List.mem_map] at he
  obtain ⟨b, hb, it, _, rfl⟩ := he
  exact ⟨b, hb, rfl⟩

theorem specStore_sorted (bs : List (Nat × List Item)) (h : bs.Pairwise (fun a b => a.1 < b.1)) :
    (specStore bs).Pairwise (fun a b => a.seqno ≤ b.seqno) := by
  induction bs with
  | nil => exact List.Pairwise.nil
  | cons b r ih =>
    have ⟨h1, h2⟩ := List.pairwise_cons.mp h
    have e : specStore (b :: r) = b.2.map (Item.entry b.1) ++ specStore r := by simp [specStore]
    rw [e, List.pairwise_append]
    refine ⟨?_, ih h2, ?_⟩
    · rw [List.pairwise_map]
      exact List.pairwise_of_forall (fun _ _ => Nat.le_refl _)
    · intro x hx y hy
      rw [map_entry_seqno _ _ x hx]
      obtain ⟨b', hb', hbe⟩ := specStore_seqno_mem r y hy
      rw [hbe]
      exact Nat.le_of_lt (h1 b' hb')

@[simp] theorem setThread_counter (s : State) (t : Tid) (th : Thread) : (setThread s t th).counter = s.counter := rfl
@[simp] theorem setThread_visible (s : State) (t : Tid) (th : Thread) : (setThread s t th).visible = s.visible := rfl
@[simp] theorem setThread_floor (s : State) (t : Tid) (th : Thread) : (setThread s t th).floor = s.floor := rfl
@[simp] theorem setThread_lock (s : State) (t : Tid) (th : Thread) : (setThread s t th).lock = s.lock := rfl
@[simp] theorem setThread_store (s : State) (t : Tid) (th : Thread) : (setThread s t th).store = s.store := rfl
@[simp] theorem setThread_batches (s : State) (t : Tid) (th : Thread) : (setThread s t th).batches = s.batches := rfl
@[simp] theorem setThread_obs (s : State) (t : Tid) (th : Thread) : (setThread s t th).obs = s.obs := rfl
@[simp] theorem setThread_wm (s : State) (t : Tid) (th : Thread) : (setThread s t th).wm = s.wm := rfl
@[simp] theorem setThread_log (s : State) (t : Tid) (th : Thread) : (setThread s t th).log = s.log := rfl
@[simp] theorem setThread_threads (s : State) (t : Tid) (th : Thread) : (setThread s t th).threads = s.threads.set t th := rfl

def inflight (s : State) : Option Nat :=
  match s.lock with
  | some (_, .wDrawn sq _ _) => some sq
  | _ => none

def LPhase.floored : LPhase → Bool
  | .wFloored _ | .wDrawn _ _ _ => true
  | _ => false

/-- the holder of the mutex is between `begin_write` and `publish` -/
def floored (s : State) : Bool := s.lock.any (·.2.floored)

theorem floored_of_lock {s : State} {t : Tid} {ph : LPhase} (hl : s.lock = some (t, ph)) : floored s = ph.floored := by
  rw [floored, hl]; rfl

theorem floored_of_free {s : State} (hl : s.lock = none) : floored s = false := by
  rw [floored, hl]; rfl

theorem inflight_of_drawn {s : State} {t : Tid} {sq : Nat} {done rest : List Item}
    (hl : s.lock = some (t, .wDrawn sq done rest)) : inflight s = some sq := by
  rw [inflight, hl]

theorem floored_false_inflight {s : State} (h : floored s = false) : inflight s = none := by
  unfold inflight
  split
  · rename_i hl; rw [floored_of_lock hl] at h; cases h
  · rfl

/-- The seqno of the write whose items are being applied, else the next seqno to be drawn.  Every
    write below it is in the memtables entirely; the one at it (if any) may be there in part.  The
    visible seqno can be above it (a version registration advances it while a write is being
    applied): that is finding F6, and why `open` takes the minimum with the write floor. -/
def horizon (s : State) : Nat := (inflight s).getD s.counter

theorem horizon_of_inflight {s : State} {sq : Nat} (h : inflight s = some sq) : horizon s = sq := by
  rw [horizon, h]; rfl

theorem horizon_unfloored {s : State} (h : floored s = false) : horizon s = s.counter := by
  rw [horizon, floored_false_inflight h]; rfl

structure ThreadOk (wm hz c : Nat) (view : Option Nat) (phase : Phase) : Prop where
  view : ∀ i, view = some i → wm ≤ i ∧ i ≤ hz
  loaded : ∀ v, phase = .sLoaded v → wm ≤ v ∧ v ≤ c
  drawn : ∀ sq, phase = .gDrawn sq → sq < c

theorem ThreadOk.mono {wm hz hz' c c' : Nat} {view : Option Nat} {phase : Phase} (h : ThreadOk wm hz c view phase)
    (hh : hz ≤ hz') (hc : c ≤ c') : ThreadOk wm hz' c' view phase :=
  ⟨fun i hi => ⟨(h.view i hi).1, Nat.le_trans (h.view i hi).2 hh⟩,
   fun v hv => ⟨(h.loaded v hv).1, Nat.le_trans (h.loaded v hv).2 hc⟩,
   fun sq hs => Nat.lt_of_lt_of_le (h.drawn sq hs) hc⟩

theorem ThreadOk.idle {wm hz c : Nat} {view : Option Nat} (h : ∀ i, view = some i → wm ≤ i ∧ i ≤ hz) :
    ThreadOk wm hz c view .idle :=
  ⟨h, nofun, nofun⟩

structure JournalOk (c : Nat) (bs : List (Nat × List Item)) (obs : List Obs) : Prop where
  lt : ∀ b ∈ bs, b.1 < c
  sorted : bs.Pairwise (fun a b => a.1 < b.1)
  obs : ∀ o ∈ obs, o.view ≤ c ∧ o.res = lookup (specStore bs) o.ks o.key (some o.view)

section
variable {c c' : Nat} {bs : List (Nat × List Item)} {obs : List Obs}

theorem JournalOk.mono (h : JournalOk c bs obs) (hc : c ≤ c') : JournalOk c' bs obs :=
  ⟨fun b hb => Nat.lt_of_lt_of_le (h.lt b hb) hc, h.sorted, fun o ho => ⟨Nat.le_trans (h.obs o ho).1 hc, (h.obs o ho).2⟩⟩

/-- a seqno is drawn for the write `items`: no view reaches it yet -/
theorem JournalOk.snoc (h : JournalOk c bs obs) (items : List Item) : JournalOk (c + 1) (bs ++ [(c, items)]) obs where
  lt := forall_mem_snoc (h.mono (Nat.le_succ c)).lt (Nat.lt_succ_self c)
  sorted := pairwise_snoc h.sorted h.lt
  obs o ho := by
    obtain ⟨h1, h2⟩ := h.obs o ho
    rw [specStore_append, specStore_single, lookup_append_batch _ _ _ _ _ h1]
    exact ⟨Nat.le_succ_of_le h1, h2⟩

end

def Shape (s : State) : Prop :=
  match s.lock with
  | some (_, .wDrawn sq done rest) =>
    ∃ bs, s.batches = bs ++ [(sq, done ++ rest)] ∧ s.store = specStore bs ++ done.map (Item.entry sq)
  | _ => s.store = specStore s.batches

structure Inv (s : State) : Prop where
  visLe : s.visible ≤ s.counter
  wmVis : s.wm ≤ s.visible
  journal : JournalOk s.counter s.batches s.obs
  floorNone : s.floor = none → floored s = false
  floorSome : ∀ F, s.floor = some F → s.wm ≤ F ∧ F ≤ horizon s
  thrOk : ∀ (t : Tid) (th : Thread), s.threads[t]? = some th → ThreadOk s.wm (horizon s) s.counter th.view th.phase
  shape : Shape s

theorem Inv.shape_cases {s : State} (h : Inv s) :
    (∃ sq done rest bs, inflight s = some sq ∧ s.batches = bs ++ [(sq, done ++ rest)] ∧
      s.store = specStore bs ++ done.map (Item.entry sq)) ∨
    inflight s = none ∧ s.store = specStore s.batches := by
  have hsh := h.shape
  unfold Shape at hsh; unfold inflight
  split at hsh
  · obtain ⟨bs, hb, hs⟩ := hsh
    exact Or.inl ⟨_, _, _, bs, rfl, hb, hs⟩
  · exact Or.inr ⟨rfl, hsh⟩

theorem Inv.inflight_lt {s : State} (h : Inv s) {sq : Nat} (hsq : inflight s = some sq) : sq < s.counter := by
  rcases h.shape_cases with ⟨sq', _, _, bs, hi, hb, _⟩ | ⟨hi, _⟩ <;> rw [hi] at hsq <;> cases hsq
  exact h.journal.lt (sq, _) (hb ▸ List.mem_append_right _ (List.mem_singleton_self _))

theorem Inv.horizon_le {s : State} (h : Inv s) : horizon s ≤ s.counter := by
  unfold horizon
  cases hi : inflight s with
  | none => exact Nat.le_refl _
  | some sq => exact Nat.le_of_lt (h.inflight_lt hi)

theorem Inv.floor_ne_none {s : State} (h : Inv s) (hf : floored s = true) : s.floor ≠ none :=
  fun hn => Bool.noConfusion (hf.symm.trans (h.floorNone hn))

theorem Inv.thrOk_le {s : State} (h : Inv s) {hz c : Nat} (hh : horizon s ≤ hz) (hc : s.counter ≤ c) :
    ∀ (t : Tid) (th : Thread), s.threads[t]? = some th → ThreadOk s.wm hz c th.view th.phase :=
  fun t th ht => (h.thrOk t th ht).mono hh hc

theorem Inv.floor_le {s : State} (h : Inv s) {hz : Nat} (hh : horizon s ≤ hz) :
    ∀ F, s.floor = some F → s.wm ≤ F ∧ F ≤ hz :=
  fun F hF => ⟨(h.floorSome F hF).1, Nat.le_trans (h.floorSome F hF).2 hh⟩

theorem Inv.store_eq {s : State} (h : Inv s) (hq : inflight s = none) : s.store = specStore s.batches := by
  rcases h.shape_cases with ⟨_, _, _, _, hi, _⟩ | ⟨_, hs⟩
  · rw [hi] at hq; cases hq
  · exact hs

theorem Inv.store_sorted {s : State} (h : Inv s) : s.store.Pairwise (fun a b => a.seqno ≤ b.seqno) := by
  rcases h.shape_cases with ⟨sq, done, rest, bs, _, hb, hs⟩ | ⟨_, hs⟩
  · -- the store is the spec store of the journal with its last write cut down to the items applied
    have hsorted := h.journal.sorted
    rw [hb, List.pairwise_append] at hsorted
    rw [hs, ← specStore_single, ← specStore_append]
    exact specStore_sorted _ (pairwise_snoc hsorted.1 fun a ha => hsorted.2.2 a ha (sq, done ++ rest) (List.mem_singleton_self _))
  · rw [hs]; exact specStore_sorted _ h.journal.sorted

theorem natMax_eq_max (a b : Nat) : natMax a b = max a b := Nat.max_def.symm

theorem natMin_eq_min (a b : Nat) : natMin a b = min a b := Nat.min_def.symm

theorem natMax_le {a b c : Nat} (ha : a ≤ c) (hb : b ≤ c) : natMax a b ≤ c :=
  natMax_eq_max a b ▸ Nat.max_le.mpr ⟨ha, hb⟩

theorem le_natMax (a b : Nat) : a ≤ natMax a b := natMax_eq_max a b ▸ Nat.le_max_left a b

theorem init_inv (progs : List (List Cmd)) : Inv (init progs) := by
  refine {
    visLe := Nat.le_refl _
    wmVis := Nat.le_refl _
    journal := ⟨nofun, List.Pairwise.nil, nofun⟩
    floorNone := fun _ => rfl
    floorSome := nofun
    thrOk := ?_
    shape := rfl }
  intro t th h
  simp only [init, List.getElem?_map, Option.map_eq_some_iff] at h
  obtain ⟨p, _, rfl⟩ := h
  exact ⟨nofun, nofun, nofun⟩

theorem Inv.setThread {s : State} (h : Inv s) {t : Tid} {th' : Thread} {log' : List Ev}
    (hnew : ThreadOk s.wm (horizon s) s.counter th'.view th'.phase) :
    Inv { (setThread s t th') with log := log' } :=
  { h with thrOk := forall_set h.thrOk t hnew fun _ _ _ ok => ok, shape := h.shape }

theorem shape_unfloored {s : State} (h : floored s = false) : Shape s ↔ s.store = specStore s.batches := by
  unfold Shape
  split
  · rename_i hl; rw [floored_of_lock hl] at h; cases h
  · rfl

theorem Inv.relock {s : State} (h : Inv s) (hq : floored s = false) (l' : Option (Tid × LPhase)) (log' : List Ev)
    (hq' : floored { s with lock := l', log := log' } = false) : Inv { s with lock := l', log := log' } := by
  have hz : horizon { s with lock := l', log := log' } = horizon s :=
    (horizon_unfloored hq').trans (horizon_unfloored hq).symm
  exact { h with
    floorNone := fun _ => hq'
    floorSome := h.floor_le (Nat.le_of_eq hz.symm)
    thrOk := h.thrOk_le (Nat.le_of_eq hz.symm) (Nat.le_refl _)
    shape := (shape_unfloored hq').mpr ((shape_unfloored hq).mp h.shape) }

theorem viewMin_le (acc : Nat) (th : Thread) :
    viewMin acc th ≤ acc ∧ ∀ i, th.view = some i → viewMin acc th ≤ i := by
  unfold viewMin
  cases th.view with
  | none => exact ⟨Nat.le_refl _, nofun⟩
  | some j =>
    simp only [natMin_eq_min]
    exact ⟨Nat.min_le_left _ _, fun i hi => by cases hi; exact Nat.min_le_right _ _⟩

theorem foldl_viewMin_le (l : List Thread) (t0 : Nat) :
    l.foldl viewMin t0 ≤ t0 ∧ ∀ th ∈ l, ∀ i, th.view = some i → l.foldl viewMin t0 ≤ i := by
  induction l generalizing t0 with
  | nil => exact ⟨Nat.le_refl _, nofun⟩
  | cons a r ih =>
    obtain ⟨h1, h2⟩ := ih (viewMin t0 a)
    obtain ⟨v1, v2⟩ := viewMin_le t0 a
    refine ⟨Nat.le_trans h1 v1, fun th hth i hi => ?_⟩
    rcases List.mem_cons.mp hth with rfl | hth
    · exact Nat.le_trans h1 (v2 i hi)
    · exact h2 th hth i hi

theorem instantOf_le (cfg : Cfg) (hcfg : cfg.useFloor = true) (s : State) (v : Nat) :
    instantOf cfg s v ≤ v ∧ ∀ F, s.floor = some F → instantOf cfg s v ≤ F := by
  simp only [instantOf, hcfg, if_true]
  cases hf : s.floor with
  | none => exact ⟨Nat.le_refl _, nofun⟩
  | some F =>
    simp only [← Nat.min_def]
    exact ⟨Nat.min_le_left _ _, fun F' hF' => by cases hF'; exact Nat.min_le_right _ _⟩

theorem Inv.gcWm_le {s : State} (h : Inv s) {cfg : Cfg} (hcfg : cfg.useFloor = true) :
    gcWm cfg s ≤ s.visible ∧ (∀ F, s.floor = some F → gcWm cfg s ≤ F) ∧
    ∀ (t : Tid) (th : Thread) (i : Nat), s.threads[t]? = some th → th.view = some i → gcWm cfg s ≤ i := by
  obtain ⟨i1, i2⟩ := instantOf_le cfg hcfg s s.visible
  obtain ⟨f1, f2⟩ := foldl_viewMin_le s.threads (instantOf cfg s s.visible)
  -- `gcWm` is the maximum of the watermark and `lowest - 1`; what bounds `lowest` bounds that
  have hlow : ∀ {x}, s.threads.foldl viewMin (instantOf cfg s s.visible) ≤ x → s.wm ≤ x → gcWm cfg s ≤ x :=
    fun hx hw => natMax_le hw (Nat.le_trans (Nat.sub_le _ _) hx)
  exact ⟨hlow (Nat.le_trans f1 i1) h.wmVis, fun F hF => hlow (Nat.le_trans f1 (i2 F hF)) (h.floorSome F hF).1,
    fun t th i hth hv => hlow (f2 th (List.mem_of_getElem? hth) i hv) ((h.thrOk t th hth).view i hv).1⟩

theorem not_loading (s : State) (h : loading s = false) (t : Tid) (th : Thread) (hth : s.threads[t]? = some th) :
    ∀ v, th.phase ≠ .sLoaded v := by
  intro v hv
  have := List.any_eq_false.mp h th (List.mem_of_getElem? hth)
  rw [hv] at this
  exact this rfl

theorem Inv.gc {s : State} (h : Inv s) {cfg : Cfg} (hcfg : cfg.useFloor = true) (hl : loading s = false) :
    Inv { s with wm := gcWm cfg s } :=
  have ⟨g1, g2, g3⟩ := h.gcWm_le hcfg
  { h with
    wmVis := g1
    floorSome := fun F hF => ⟨g2 F hF, (h.floorSome F hF).2⟩
    thrOk := fun t th hth =>
      have ok := h.thrOk t th hth
      ⟨fun i hi => ⟨g3 t th i hth hi, (ok.view i hi).2⟩, fun v hv => absurd hv (not_loading s hl t th hth v), ok.drawn⟩
    shape := h.shape }

theorem Inv.advance {s : State} (h : Inv s) {n : Nat} (hn : n ≤ s.counter) :
    Inv { s with visible := natMax s.visible n } :=
  { h with visLe := natMax_le h.visLe hn, wmVis := Nat.le_trans h.wmVis (le_natMax _ _), shape := h.shape }

/-- a seqno is drawn for something that is not a write: the counter moves on, and the horizon with it unless a write
    is in flight -/
theorem Inv.tick {s : State} (h : Inv s) : Inv { s with counter := s.counter + 1 } :=
  have hz : horizon s ≤ (inflight s).getD (s.counter + 1) := by
    unfold horizon; cases inflight s <;> simp
  { h with
    visLe := Nat.le_succ_of_le h.visLe
    journal := h.journal.mono (Nat.le_succ _)
    floorSome := h.floor_le hz
    thrOk := h.thrOk_le hz (Nat.le_succ _)
    shape := h.shape }

theorem Inv.lookup_of_le_horizon {s : State} (h : Inv s) (ks : KsId) (key : Key) {i : Nat} (hi : i ≤ horizon s) :
    lookup s.store ks key (some i) = lookup (specStore s.batches) ks key (some i) := by
  rcases h.shape_cases with ⟨sq, done, rest, bs, hq, hb, hs⟩ | ⟨_, hs⟩
  · rw [horizon_of_inflight hq] at hi
    rw [hs, hb, specStore_append, specStore_single, lookup_append_batch _ _ _ _ _ hi, lookup_append_batch _ _ _ _ _ hi]
  · rw [hs]

theorem Inv.observe {s : State} (h : Inv s) (t : Tid) (ks : KsId) (key : Key) {i : Nat} (hi : i ≤ horizon s) :
    Inv { s with obs := s.obs ++ [⟨t, i, ks, key, lookup s.store ks key (some i)⟩] } :=
  { h with
    journal := { h.journal with obs := forall_mem_snoc h.journal.obs ⟨Nat.le_trans hi h.horizon_le, h.lookup_of_le_horizon ks key hi⟩ }
    shape := h.shape }

theorem Inv.atomicVisible {s : State} (h : Inv s) : AtomicVisible s := fun o ho => (h.journal.obs o ho).2

theorem Inv.le_instantOf {s : State} (h : Inv s) (cfg : Cfg) {v : Nat} (hv : s.wm ≤ v) : s.wm ≤ instantOf cfg s v := by
  unfold instantOf
  split
  · split
    · split
      · exact hv
      · exact (h.floorSome _ ‹_›).1
    · exact hv
  · exact hv

theorem Inv.instantOf_le_horizon {s : State} (h : Inv s) {cfg : Cfg} (hcfg : cfg.useFloor = true) {v : Nat} (hv : v ≤ s.counter) :
    instantOf cfg s v ≤ horizon s := by
  obtain ⟨h1, h2⟩ := instantOf_le cfg hcfg s v
  cases hf : s.floor with
  | none => rw [horizon_unfloored (h.floorNone hf)]; exact Nat.le_trans h1 hv
  | some F => exact Nat.le_trans (h2 F hf) (h.floorSome F hf).2

theorem loading_guard {s x s' : State} (h : (if loading s then none else some x) = some s') :
    loading s = false ∧ x = s' := by
  simpa using h

theorem lock_guard {s x s' : State} (h : (match s.lock with | some _ => none | none => some x) = some s') :
    s.lock = none ∧ x = s' := by
  split at h
  · cases h
  · exact ⟨‹_›, Option.some.inj h⟩

theorem inv_locked {cfg : Cfg} (hcfg : cfg.useFloor = true) {s s' : State} {t : Tid} {th : Thread} {ph : LPhase}
    (hth : s.threads[t]? = some th) (hl : s.lock = some (t, ph)) (hstep : lockedStep cfg s t th ph = some s')
    (h : Inv s) : Inv s' := by
  have hsh := h.shape
  have ok := h.thrOk t th hth
  cases ph with
  | wLocked items =>
    -- `begin_write`
    cases hstep
    exact { h with
      floorNone := nofun
      floorSome := fun F hF => by cases hF; exact ⟨h.wmVis, h.visLe⟩
      thrOk := h.thrOk_le h.horizon_le (Nat.le_refl _)
      shape := by simpa only [Shape, hl] using hsh }
  | wFloored items =>
    -- the seqno drawn is the counter so far: the horizon stays where it is while the counter moves on
    cases hstep
    exact { h with
      visLe := Nat.le_succ_of_le h.visLe
      journal := h.journal.snoc items
      floorNone := fun hn => absurd hn (h.floor_ne_none (floored_of_lock hl))
      floorSome := h.floor_le h.horizon_le
      thrOk := h.thrOk_le h.horizon_le (Nat.le_succ _)
      shape := ⟨s.batches, rfl, by simpa only [Shape, hl, List.map_nil, List.append_nil] using hsh⟩ }
  | wDrawn sq done rest =>
    have hq := inflight_of_drawn hl
    have hz := horizon_of_inflight hq
    simp only [Shape, hl] at hsh
    obtain ⟨bs, hb, hs⟩ := hsh
    cases rest with
    | cons it rest =>
      cases hstep
      exact { h with
        floorNone := fun hn => absurd hn (h.floor_ne_none (floored_of_lock hl))
        floorSome := h.floor_le (Nat.le_of_eq hz)
        thrOk := h.thrOk_le (Nat.le_of_eq hz) (Nat.le_refl _)
        shape := ⟨bs, by simp [hb], by simp [hs]⟩ }
    | nil =>
      -- `publish`: the write is complete, the horizon moves up to the counter
      cases hstep
      exact { h.advance (h.inflight_lt hq) with
        floorNone := fun _ => rfl
        floorSome := nofun
        thrOk := h.thrOk_le h.horizon_le (Nat.le_refl _)
        shape := by
          show s.store = specStore s.batches
          rw [hs, hb, specStore_append, specStore_single, List.append_nil] }
  | wPublished =>
    cases hstep
    exact (h.setThread (th' := { th with prog := th.prog.tail }) (log' := s.log) ok).relock (floored_of_lock hl : floored s = false) none _ rfl
  | rLocked =>
    cases hstep
    exact (h.setThread (th' := { th with phase := .needGc }) (log' := s.log) ⟨ok.view, nofun, nofun⟩).relock (floored_of_lock hl : floored s = false) none _ rfl
  | iLocked items =>
    -- `Ingestion::finish`: seqno drawn, tables registered and visible seqno raised in one step; no
    -- write is in flight before or after, so the horizon moves with the counter
    cases hstep
    exact {
      visLe := natMax_le (Nat.le_succ_of_le h.visLe) (Nat.le_refl _)
      wmVis := Nat.le_trans h.wmVis (le_natMax _ _)
      journal := h.journal.snoc items
      floorNone := fun _ => rfl
      floorSome := h.floor_le (Nat.le_succ_of_le h.horizon_le)
      thrOk := h.thrOk_le (Nat.le_succ_of_le h.horizon_le) (Nat.le_succ _)
      shape := by
        simp only [Shape, hl] at hsh
        show s.store ++ _ = specStore (s.batches ++ _)
        rw [hsh, specStore_append, specStore_single] }
  | iGc =>
    obtain ⟨hload, rfl⟩ := loading_guard hstep
    exact (h.gc hcfg hload).relock (floored_of_lock hl : floored s = false) _ s.log rfl

theorem inv_free {cfg : Cfg} (hcfg : cfg.useFloor = true) {s s' : State} {t : Tid} {th : Thread}
    (hth : s.threads[t]? = some th) (hstep : freeStep cfg s t th = some s') (h : Inv s) : Inv s' := by
  have ok := h.thrOk t th hth
  obtain ⟨prog, phase, view⟩ := th
  cases phase with
  | sLoaded v =>
    -- second half of `snapshot_instant`: the floor is read, the view is created
    cases hstep
    obtain ⟨hwv, hvc⟩ := ok.loaded v rfl
    exact h.setThread (.idle fun i hi => by cases hi; exact ⟨h.le_instantOf cfg hwv, h.instantOf_le_horizon hcfg hvc⟩)
  | gDrawn sq =>
    cases hstep
    exact (h.advance (ok.drawn sq rfl)).setThread (.idle ok.view)
  | needGc =>
    obtain ⟨hload, rfl⟩ := loading_guard hstep
    have h' := h.gc hcfg hload
    have ok' := h'.thrOk t _ hth
    exact h'.setThread (.idle ok'.view)
  | idle =>
    cases prog with
    | nil => cases hstep
    | cons c r =>
      cases c with
      | write items | rotate | ingest items =>
        obtain ⟨hl, rfl⟩ := lock_guard hstep
        exact h.relock (floored_of_free hl) _ _ rfl
      | gc =>
        obtain ⟨hload, rfl⟩ := loading_guard hstep
        have h' := h.gc hcfg hload
        have ok' := h'.thrOk t _ hth
        exact h'.setThread ok'
      | close => cases hstep; exact h.setThread (.idle nofun)
      | snap =>
        -- first half of `snapshot_instant`: the visible seqno is read
        cases hstep
        exact h.setThread ⟨ok.view, fun v hv => by cases hv; exact ⟨h.wmVis, h.visLe⟩, nofun⟩
      | read ks key =>
        cases view with
        | none => cases hstep; exact h.setThread ok
        | some i => cases hstep; exact (h.observe t ks key (ok.view i rfl).2).setThread ok
      | readTop ks key => cases hstep; exact h.setThread ok
      | register =>
        cases hstep
        have h' := h.tick
        have ok' := h'.thrOk t _ hth
        exact h'.setThread ⟨ok'.view, nofun, fun sq hsq => by cases hsq; exact Nat.lt_succ_self _⟩

theorem step_cases {cfg : Cfg} {motive : State → Prop} {s : State} (t : Tid) (h : motive s)
    (hlocked : ∀ th ph s', s.threads[t]? = some th → s.lock = some (t, ph) → lockedStep cfg s t th ph = some s' → motive s')
    (hfree : ∀ th s', s.threads[t]? = some th → (∀ ph, s.lock ≠ some (t, ph)) → freeStep cfg s t th = some s' → motive s') :
    motive (step cfg s t) := by
  unfold step
  cases hs : stepT cfg s t with
  | none => exact h
  | some s' =>
    unfold stepT at hs
    cases hth : s.threads[t]? with
    | none => rw [hth] at hs; cases hs
    | some th =>
      rw [hth] at hs
      cases hl : s.lock with
      | none => rw [hl] at hs; exact hfree th s' hth (fun _ hc => nomatch hl.symm.trans hc) hs
      | some p =>
        obtain ⟨holder, ph⟩ := p
        rw [hl] at hs
        by_cases e : holder = t
        · subst e; exact hlocked th ph s' hth hl ((if_pos rfl).symm.trans hs)
        · exact hfree th s' hth (fun _ hc => e (congrArg Prod.fst (Option.some.inj (hl.symm.trans hc))))
            ((if_neg e).symm.trans hs)

theorem step_inv (cfg : Cfg) (hcfg : cfg.useFloor = true) (s : State) (t : Tid) (h : Inv s) : Inv (step cfg s t) :=
  step_cases t h (fun _ _ _ hth hl hs => inv_locked hcfg hth hl hs h) (fun _ _ hth _ hs => inv_free hcfg hth hs h)

theorem run_inv (cfg : Cfg) (hcfg : cfg.useFloor = true) (s : State) (sched : List Tid) (h : Inv s) :
    Inv (run cfg s sched) :=
  List.foldlRecOn (motive := Inv) sched _ h fun s hs t _ => step_inv cfg hcfg s t hs

theorem reach_inv (progs : List (List Cmd)) (sched : List Tid) : Inv (run {} (init progs) sched) :=
  run_inv {} rfl _ sched (init_inv progs)

end Fjall.Conc
