/-
  Bytes: byte strings and fixed-width little-endian codecs, plus a tiny
  parser-combinator layer with the `Local` (prefix-determinism) property.
  Import-free so that the driver links as a `lean_exe`.
-/
namespace Fjall

abbrev Bytes := List UInt8

/-- `k`-byte little-endian encoding of `n mod 256^k` (this is `write_uN::<LittleEndian>(n as uN)`). -/
def leN : Nat → Nat → Bytes
  | 0, _ => []
  | k+1, n => UInt8.ofNat (n % 256) :: leN k (n / 256)

/-- `k`-byte big-endian encoding. -/
def beN (k n : Nat) : Bytes := (leN k n).reverse

/-- read `k` bytes little-endian -/
def rdN : Nat → Bytes → Option (Nat × Bytes)
  | 0, r => some (0, r)
  | _+1, [] => none
  | k+1, b :: r =>
    match rdN k r with
    | none => none
    | some (n, r') => some (b.toNat + 256 * n, r')

@[simp] theorem leN_length (k n : Nat) : (leN k n).length = k := by
  induction k generalizing n with
  | zero => rfl
  | succ k ih => simp [leN, ih]

theorem rdN_leN (k n : Nat) (r : Bytes) (h : n < 256 ^ k) :
    rdN k (leN k n ++ r) = some (n, r) := by
  induction k generalizing n with
  | zero => rw [Nat.pow_zero, Nat.lt_one_iff] at h; subst h; rfl
  | succ k ih =>
    rw [leN, List.cons_append, rdN, ih (n / 256) (Nat.div_lt_of_lt_mul (Nat.pow_succ' ▸ h)),
      UInt8.toNat_ofNat', Nat.mod_mod_of_dvd n (by decide : 256 ∣ 2 ^ 8)]
    exact congrArg (fun a => some (a, r)) (Nat.mod_add_div n 256)

theorem rdN_succ_cons (k : Nat) (b : UInt8) (x : Bytes) :
    rdN (k+1) (b :: x) = (rdN k x).map fun (n, r) => (b.toNat + 256 * n, r) := by
  rw [rdN]; cases rdN k x <;> rfl

theorem rdN_inv (k : Nat) (x : Bytes) (n : Nat) (r : Bytes) (h : rdN k x = some (n, r)) :
    x = leN k n ++ r ∧ n < 256 ^ k := by
  induction k generalizing x n r with
  | zero => cases h; exact ⟨rfl, Nat.one_pos⟩
  | succ k ih =>
    cases x with
    | nil => cases h
    | cons b x =>
      rw [rdN_succ_cons] at h
      cases hk : rdN k x with
      | none => rw [hk] at h; cases h
      | some nr =>
        rw [hk] at h
        cases h
        obtain ⟨rfl, hn⟩ := ih x nr.1 nr.2 hk
        have hb : b.toNat < 256 := b.toNat_lt
        refine ⟨?_, by rw [Nat.pow_succ]; omega⟩
        rw [leN, Nat.add_mul_mod_self_left, Nat.mod_eq_of_lt hb, UInt8.ofNat_toNat,
          Nat.add_mul_div_left _ _ (by decide), Nat.div_eq_of_lt hb, Nat.zero_add]
        rfl

abbrev P (α : Type) := Bytes → Option (α × Bytes)

namespace P
def pure (a : α) : P α := fun x => some (a, x)
def bind (f : P α) (g : α → P β) : P β := fun x =>
  match f x with
  | none => none
  | some (a, r) => g a r
def fail : P α := fun _ => none
def ofOption : Option α → P α
  | none => fail
  | some a => pure a
def byte : P UInt8
  | [] => none
  | b :: r => some (b, r)
def nat (k : Nat) : P Nat := rdN k
def take (n : Nat) : P Bytes := fun x =>
  if n ≤ x.length then some (x.take n, x.drop n) else none

theorem bind_eq_some {f : P α} {g : α → P β} {x : Bytes} {b : β} {r : Bytes} :
    bind f g x = some (b, r) ↔ ∃ a r1, f x = some (a, r1) ∧ g a r1 = some (b, r) := by
  unfold bind
  cases f x with
  | none => simp
  | some ar =>
    exact ⟨fun h => ⟨_, _, rfl, h⟩, fun ⟨_, _, h1, h⟩ => by cases h1; exact h⟩

theorem take_eq_some {n : Nat} {x a r : Bytes} :
    take n x = some (a, r) ↔ x = a ++ r ∧ a.length = n := by
  unfold take
  constructor
  · intro h
    split at h
    · obtain ⟨rfl, rfl⟩ := Prod.mk.inj (Option.some.inj h)
      exact ⟨(List.take_append_drop n x).symm, List.length_take_of_le ‹_›⟩
    · cases h
  · rintro ⟨rfl, rfl⟩
    simp

/-- A parser is *local* when a successful parse depends only on the bytes it consumed. -/
def Local (f : P α) : Prop :=
  ∀ x a r, f x = some (a, r) → ∃ pre, x = pre ++ r ∧ ∀ r', f (pre ++ r') = some (a, r')

theorem local_pure (a : α) : Local (pure a) := by
  intro x a' r h
  simp [pure] at h
  obtain ⟨rfl, rfl⟩ := h
  exact ⟨[], rfl, fun r' => rfl⟩

theorem local_fail : Local (fail : P α) := by
  intro x a r h; simp [fail] at h

theorem local_ofOption (o : Option α) : Local (ofOption o) := by
  cases o
  · exact local_fail
  · exact local_pure _

theorem local_bind {f : P α} {g : α → P β} (hf : Local f) (hg : ∀ a, Local (g a)) :
    Local (bind f g) := by
  intro x b r h
  obtain ⟨a, r1, hfx, hgx⟩ := bind_eq_some.mp h
  obtain ⟨pre1, rfl, hpre1⟩ := hf x a r1 hfx
  obtain ⟨pre2, rfl, hpre2⟩ := hg a r1 b r hgx
  exact ⟨pre1 ++ pre2, (List.append_assoc ..).symm, fun r' => by
    rw [List.append_assoc]; exact bind_eq_some.mpr ⟨a, _, hpre1 _, hpre2 r'⟩⟩

theorem local_ite {q : Prop} [Decidable q] {f g : P α} (hf : q → Local f)
    (hg : ¬ q → Local g) : Local (if q then f else g) :=
  iteInduction hf hg

theorem local_byte : Local byte := by
  intro x a r h
  cases x with
  | nil => simp [byte] at h
  | cons b x =>
    simp [byte] at h
    obtain ⟨rfl, rfl⟩ := h
    exact ⟨[b], rfl, fun r' => rfl⟩

theorem local_nat (k : Nat) : Local (nat k) := by
  intro x n r h
  obtain ⟨hx, hn⟩ := rdN_inv k x n r h
  exact ⟨leN k n, hx, fun r' => rdN_leN k n r' hn⟩

theorem local_take (n : Nat) : Local (take n) := by
  intro x a r h
  obtain ⟨rfl, rfl⟩ := take_eq_some.mp h
  exact ⟨a, rfl, fun r' => take_eq_some.mpr ⟨rfl, rfl⟩⟩

/-- A local parser that accepts `enc` as a whole cannot succeed on a proper prefix of it: run on
    `enc` cut short and followed by anything, it fails or consumes all that is left of `enc`. -/
theorem Local.of_cut {f : P α} (hf : Local f) {enc : Bytes} {a : α} (henc : f enc = some (a, []))
    {n : Nat} (hn : n < enc.length) {z r' : Bytes} {a' : α}
    (h : f (enc.take n ++ z) = some (a', r')) : ∃ z1, z = z1 ++ r' := by
  obtain ⟨pre, hx, hpre⟩ := hf _ a' r' h
  rcases List.append_eq_append_iff.mp hx with ⟨z1, -, hz⟩ | ⟨b, htake, -⟩
  · exact ⟨z1, hz⟩
  · -- had it stopped inside `enc.take n`, locality would make it stop there on `enc` too
    have h' := hpre (b ++ enc.drop n)
    rw [← List.append_assoc, ← htake, List.take_append_drop, henc] at h'
    have : enc.drop n = [] :=
      (List.append_eq_nil_iff.mp (Prod.mk.inj (Option.some.inj h')).2.symm).2
    exact absurd (List.drop_eq_nil_iff.mp this) (Nat.not_le_of_lt hn)

def Yields (f : P α) (Q : α → Prop) : Prop := ∀ x a r, f x = some (a, r) → Q a

theorem yields_pure {Q : α → Prop} {a : α} (h : Q a) : Yields (pure a) Q := by
  intro x a' r hx
  simp [pure] at hx
  exact hx.1 ▸ h

theorem yields_fail {Q : α → Prop} : Yields (fail : P α) Q := by
  intro x a r h; simp [fail] at h

theorem yields_bind {f : P α} {g : α → P β} {Q : β → Prop} (hg : ∀ a, Yields (g a) Q) :
    Yields (bind f g) Q := by
  intro x b r h
  obtain ⟨a, r1, -, hgx⟩ := bind_eq_some.mp h
  exact hg a r1 b r hgx

theorem yields_ite {q : Prop} [Decidable q] {f g : P α} {Q : α → Prop} (hf : q → Yields f Q)
    (hg : ¬ q → Yields g Q) : Yields (if q then f else g) Q :=
  iteInduction (motive := (Yields · Q)) hf hg

end P

/-- bytes of an ASCII string (all names in the model are ASCII; the real bytes are compared by the
    correspondence check) -/
def asciiBytes (s : String) : Bytes := s.toList.map fun c => UInt8.ofNat c.toNat

/-- zero padding -/
def zeros (m : Nat) : Bytes := List.replicate m 0

end Fjall
