/-
  Journal entry codec: transcription of src/journal/entry.rs
  (Entry::encode_into / serialize_marker_item / Entry::decode_from).
-/
import FjallModel.Bytes
namespace Fjall.Journal
open Fjall

/-- tags and trailer (extracted from the source into `Generated/Params.lean` on every run) -/
structure Params where
  tagStart : UInt8
  tagItem : UInt8
  tagEnd : UInt8
  tagClear : UInt8
  magic : Bytes
  deriving Repr, DecidableEq

def Params.Valid (p : Params) : Prop :=
  p.tagStart ≠ p.tagItem ∧ p.tagStart ≠ p.tagEnd ∧ p.tagStart ≠ p.tagClear ∧
  p.tagItem ≠ p.tagEnd ∧ p.tagItem ≠ p.tagClear ∧ p.tagEnd ≠ p.tagClear ∧
  p.tagStart ≠ 0 ∧ p.tagItem ≠ 0 ∧ p.tagEnd ≠ 0 ∧ p.tagClear ≠ 0 ∧
  p.magic ≠ [] ∧ p.magic.getLast? ≠ some 0

instance (p : Params) : Decidable p.Valid := by unfold Params.Valid; infer_instance

/-- what the code has at the pinned commit; the generated file is compared with it -/
def Params.default : Params :=
  { tagStart := 1, tagItem := 2, tagEnd := 3, tagClear := 4, magic := [0x46, 0x4A, 0x4C, 3] }

/-- the block compressor is a parameter (lz4_flex in the implementation) -/
structure Codec where
  compress : Bytes → Bytes
  /-- `decompress stored expectedLen` = `lz4_flex::decompress_into` into a buffer of `expectedLen`
      bytes followed by the `size != value.len()` check -/
  decompress : Bytes → Nat → Option Bytes

def Codec.Law (c : Codec) : Prop := ∀ v, c.decompress (c.compress v) v.length = some v

inductive Kind | value | tomb | weakTomb | indirection
  deriving Repr, DecidableEq

def Kind.toByte : Kind → UInt8
  | .value => 0 | .tomb => 1 | .weakTomb => 2 | .indirection => 4
def Kind.ofByte (b : UInt8) : Option Kind :=
  if b = 0 then some .value else if b = 1 then some .tomb else if b = 2 then some .weakTomb
  else if b = 4 then some .indirection else none

inductive Comp | none | lz4
  deriving Repr, DecidableEq
def Comp.toByte : Comp → UInt8
  | .none => 0 | .lz4 => 1
def Comp.ofByte (b : UInt8) : Option Comp :=
  if b = 0 then some .none else if b = 1 then some .lz4 else Option.none

@[simp] theorem Kind.ofByte_toByte (k : Kind) : Kind.ofByte k.toByte = some k := by
  cases k <;> decide
@[simp] theorem Comp.ofByte_toByte (k : Comp) : Comp.ofByte k.toByte = some k := by
  cases k <;> decide

structure Item where
  ks : Nat
  key : Bytes
  val : Bytes
  kind : Kind
  comp : Comp
  deriving Repr, DecidableEq

inductive Entry
  | start (count seqno : Nat)
  | item (i : Item)
  | fin (sum : Nat)
  | clear (ks : Nat)
  deriving Repr, DecidableEq

def Item.stored (c : Codec) (i : Item) : Bytes :=
  match i.comp with
  | .none => i.val
  | .lz4 => c.compress i.val

def encodeItem (p : Params) (c : Codec) (i : Item) : Bytes :=
  [p.tagItem, i.kind.toByte, i.comp.toByte] ++ leN 8 i.ks ++ leN 2 i.key.length ++
    leN 4 i.val.length ++ leN 4 (i.stored c).length ++ i.key ++ i.stored c

def encodeEntry (p : Params) (c : Codec) : Entry → Bytes
  | .start n s => [p.tagStart] ++ leN 4 n ++ leN 8 s
  | .item i => encodeItem p c i
  | .fin s => [p.tagEnd] ++ leN 8 s ++ p.magic
  | .clear ks => [p.tagClear] ++ leN 8 ks

def Item.WF (c : Codec) (i : Item) : Prop :=
  i.ks < 2^64 ∧ i.key.length < 2^16 ∧ i.val.length < 2^32 ∧ (i.stored c).length < 2^32

def Entry.WF (c : Codec) : Entry → Prop
  | .start n s => n < 2^32 ∧ s < 2^64
  | .item i => i.WF c
  | .fin s => s < 2^64
  | .clear ks => ks < 2^64

open P in
-- `P.bind`, `P.pure`, `P.fail` are written out: the short names are ambiguous with the monad's under
-- `open P`, and resolving the overloads costs time exponential in the nesting depth (seconds here)
def decodeItemBody (c : Codec) : P Entry :=
  P.bind byte fun vt =>
  P.bind (ofOption (Kind.ofByte vt)) fun kind =>
  P.bind byte fun cb =>
  P.bind (ofOption (Comp.ofByte cb)) fun comp =>
  P.bind (nat 8) fun ks =>
  P.bind (nat 2) fun keyLen =>
  P.bind (nat 4) fun valLen =>
  P.bind (nat 4) fun storedLen =>
  P.bind (take keyLen) fun key =>
  P.bind (take storedLen) fun stored =>
  match comp with
  | .none =>
    -- the length fields are untrusted: `value_len != on_disk_value_len` is a decode error
    if valLen = storedLen then P.pure (.item { ks, key, val := stored, kind, comp }) else P.fail
  | .lz4 => P.bind (ofOption (c.decompress stored valLen)) fun val =>
      P.pure (.item { ks, key, val, kind, comp })

open P in
/-- `Entry::decode_from`; `none` = any decode failure (EOF, invalid tag, invalid trailer,
    invalid value type / compression tag, decompression failure): the reader treats them alike. -/
def decodeEntry (p : Params) (c : Codec) : P Entry :=
  bind byte fun t =>
  if t = p.tagStart then
    bind (nat 4) fun n => bind (nat 8) fun s => pure (.start n s)
  else if t = p.tagItem then decodeItemBody c
  else if t = p.tagEnd then
    bind (nat 8) fun s => bind (take p.magic.length) fun m =>
      if m = p.magic then pure (.fin s) else fail
  else if t = p.tagClear then
    bind (nat 8) fun ks => pure (.clear ks)
  else fail

end Fjall.Journal
