/-
  C18 — compaction filters act only where assigned, and only as their verdicts say.
-/
import FjallModel.Lemmas.Filter
namespace Fjall.Mvcc
open Fjall Fjall.Spec

/-- **Original or filtered, nothing else.** Whatever maintenance runs on a filtered keyspace
    (rotations, flushes, compactions of any segment with any watermark, in any order), every key
    shows either its original value or the value its verdict prescribes. -/
theorem c18_filtered_either (f : Filter) (t : Tree) (h : Inv t) (ms : List Maint) (k : Key) :
    (mrun f t ms).absGet none k = t.absGet none k ∨
    (mrun f t ms).absGet none k = filtered f k (t.absGet none k) :=
  (mrun_filtered f t ms h).abs k

/-- **Keep means untouched**: items the filter keeps are never altered or lost by maintenance. -/
theorem c18_keep_untouched (f : Filter) (t : Tree) (h : Inv t) (ms : List Maint) (k : Key)
    (hk : f k = .keep) : (mrun f t ms).absGet none k = t.absGet none k := by
  rcases c18_filtered_either f t h ms k with h1 | h1
  · exact h1
  · rw [h1, filtered_keep f k _ hk]

/-- **Once filtered, it stays filtered** (until the key is written again): if after some maintenance
    a key shows its filtered form, every further maintenance keeps showing exactly that. -/
theorem c18_filtered_monotone (f : Filter) (t : Tree) (h : Inv t) (ms1 ms2 : List Maint) (k : Key)
    (hf : (mrun f t ms1).absGet none k = filtered f k (t.absGet none k)) :
    (mrun f t (ms1 ++ ms2)).absGet none k = filtered f k (t.absGet none k) := by
  rw [show mrun f t (ms1 ++ ms2) = mrun f (mrun f t ms1) ms2 from List.foldl_append ..]
  rcases c18_filtered_either f (mrun f t ms1) (mrun_filtered f t ms1 h).inv ms2 k with h1 | h1
  · rw [h1, hf]
  · rw [h1, hf, filtered_idem]

/-- a keyspace *without* a filter is the `C01` case: its compactions change nothing at all -/
theorem c18_unfiltered_unchanged (t : Tree) (h : Inv t) (i n w : Nat) (k : Key) :
    (t.compact i n w).absGet none k = t.absGet none k := compact_abs t i n w h k

/-- **Assignment**: in every state reachable by creating / deleting keyspaces and reopening, a
    keyspace has a filter installed iff the builder's assigner yields one for its *name* — both for
    newly created and for recovered keyspaces, and for no other keyspace. -/
theorem c18_assignment (a : String → Bool) (ops : List AOp) :
    ∀ k ∈ ops.foldl (astep a) [], k.hasFilter = a k.name :=
  assigned_from a ops [] fun _ h => nomatch h

/-! Non-vacuity: remove / replace / keep verdicts on flushed data, compaction of the only run. -/
def exFilter : Filter := fun k => if k = [1] then .remove else if k = [2] then .replace [9] else .keep
def exTree : Tree := { tables := [[⟨[1], 3, .value, [5]⟩, ⟨[2], 4, .value, [6]⟩, ⟨[3], 5, .value, [7]⟩]] }
example : ((mrun exFilter exTree [.compact 0 1 0]).absGet none [1],
           (mrun exFilter exTree [.compact 0 1 0]).absGet none [2],
           (mrun exFilter exTree [.compact 0 1 0]).absGet none [3]) = (none, some [9], some [7]) := by decide

end Fjall.Mvcc
