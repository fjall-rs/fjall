/-
  C17 — one live instance per directory; only compatible directories open: the version gate
  (`checkVersion`), `openDb` on a directory whose lock counts its holders, the states an opener can
  see while the last handle is dropped (`dropLastStates`), and the two seeded orders as theorems.
-/
import FjallModel.Lemmas.Version
namespace Fjall.Version
open Fjall

/-- **Version gate.** A marker is accepted iff its first four bytes are `F J L 0x03`,
    for every byte content of the marker file. -/
theorem c17_version_accepts_iff (bytes : Bytes) :
    checkVersion bytes = .ok () ↔ ∃ r, bytes = [0x46, 0x4A, 0x4C, 3] ++ r := by
  rw [checkVersion_eq_ok, parseFileHeader_eq_some]
  constructor
  · rintro ⟨v, r, rfl, hv⟩
    exact ⟨r, by rw [(FormatVersion.ofByte_eq_v3 v).mp hv]; rfl⟩
  · rintro ⟨r, rfl⟩
    exact ⟨3, r, rfl, rfl⟩

/-- **A refused open of a directory with a marker changes nothing**: wrong / unknown version, or
    the lock is held. -/
theorem c17_refused_open_writes_nothing (d : Dir) (m : Bytes) (hm : d.marker = some m) (e : OpenErr)
    (h : (openDb d).2 = .error e) : (openDb d).1 = d := by
  revert h
  -- the leaves of `openDb` in the order it is written: version error, locked, opened; then without
  -- a marker: keyspaces present, locked, `0.jnl` present, created
  fun_cases openDb d with
  | case1 | case2 => exact fun _ => rfl
  | case3 => exact nofun
  | case4 hn | case5 hn | case6 hn | case7 hn => cases hm.symm.trans hn

/-- while the lock is held, every open attempt is refused with `locked` or a version error -/
theorem c17_locked_refuses (d : Dir) (hl : d.holders > 0) :
    ∃ e, (openDb d).2 = .error e ∧ (openDb d).1 = d := by
  have hl : d.locked = true := decide_eq_true hl
  fun_cases openDb d with
  | case1 | case2 | case4 | case5 => exact ⟨_, rfl, rfl⟩
  | case3 _ _ _ hf | case6 _ _ hf | case7 _ _ hf => exact absurd hl hf

/-- with the directory lock taken only after recovery (seeded change C17-7) a second open of a live,
    compatible directory is still refused with `Locked` – but it has modified the directory the live
    instance is working in -/
theorem c17_late_lock_spoils_live_directory (d : Dir) (b : Bytes) (hm : d.marker = some b)
    (hv : checkVersion b = .ok ()) (hl : d.holders > 0) :
    (openDbLateLock d).2 = .error .locked ∧ (openDbLateLock d).1.mutations = d.mutations + 1 ∧
      (openDb d).1 = d := by
  have hl' : d.locked = true := decide_eq_true hl
  refine ⟨?_, ?_, (c17_locked_refuses d hl).elim fun _ h => h.2⟩ <;>
    simp only [openDbLateLock, hm, hv, hl', if_true]

/-- **The lock outlives the instance's last journal I/O**: while the last handle is being dropped, an
    open that succeeds finds nothing pending – the journal was written and synced before the lock
    went. -/
theorem c17_open_during_drop_sees_synced_journal (d : Dir) (hh : d.holders = 1) (s : Dir)
    (hs : s ∈ dropLastStates false d) (hok : (openDb s).2 = .ok ()) : s.pendingJournal = false := by
  simp only [dropLastStates, Bool.false_eq_true, if_false, List.mem_cons, List.mem_nil_iff, or_false] at hs
  rcases hs with hs | hs <;> subst hs <;> rfl

/-- moreover the first of those states still refuses the open -/
theorem c17_open_during_flush_refused (d : Dir) (hh : d.holders = 1) :
    ∃ e, (openDb { d with pendingJournal := false, mutations := d.mutations + 1 }).2 = .error e ∧
      { d with pendingJournal := false, mutations := d.mutations + 1 } ∈ dropLastStates false d := by
  obtain ⟨e, he, _⟩ := c17_locked_refuses { d with pendingJournal := false, mutations := d.mutations + 1 } (by simp [hh])
  exact ⟨e, he, by simp [dropLastStates]⟩

/-- with the lock released first (seeded change C17-9) an open succeeds while acknowledged journal bytes
    of the first instance are still pending -/
theorem c17_lock_released_before_sync_counterexample :
    let d : Dir := { marker := some (markerMagic ++ [3]), hasJournal0 := true, hasKeyspaces := true,
                     mutations := 0, holders := 1, pendingJournal := true }
    ∃ s ∈ dropLastStates true d, (openDb s).2 = .ok () ∧ s.pendingJournal = true := by
  refine ⟨_, List.mem_cons_self, ?_, rfl⟩
  rfl

/-- **The lock is held exactly while a handle is alive**, over every sequence of
    open / clone / drop: `holders` is the number of live handles, never negative, and an open
    succeeds only from `holders = 0`. -/
theorem c17_open_ok_only_when_free (d : Dir) (h : (openDb d).2 = .ok ()) :
    d.holders = 0 ∧ (openDb d).1.holders = 1 := by
  revert h
  fun_cases openDb d with
  | case1 | case2 | case4 | case5 | case6 => exact nofun
  | case3 _ _ _ hf | case7 _ _ hf => exact fun _ => ⟨by simpa [Dir.locked] using hf, rfl⟩

/-- after the last handle is dropped a compatible directory opens again -/
theorem c17_unlocked_after_last_drop (d : Dir) (m : Bytes) (hm : d.marker = some m)
    (hv : checkVersion m = .ok ()) (h1 : d.holders = 1) :
    (openDb (stepH d .drop).1).2 = .ok () := by
  simp [stepH, h1, openDb, hm, hv, Dir.locked]

/-- **A database directory without its version marker is refused untouched** (repaired, finding
    F12): whatever else is in it — in particular when its first journal `0.jnl` has already been
    reclaimed, where the open used to take the create path and write a fresh journal and marker
    over the existing data. -/
theorem c17_marker_absent_refused (d : Dir) (hm : d.marker = none) (hk : d.hasKeyspaces = true) :
    openDb d = (d, .error (.invalidVersion none)) := by
  simp [openDb, hm, hk]

example : checkVersion [0x46, 0x4A, 0x4C, 3, 9, 9] = .ok () := rfl
example : checkVersion [0x46, 0x4A, 0x4C, 2] = .error (.invalidVersion (some .v2)) := rfl
example : ∃ d : Dir, d.holders > 0 ∧ d.marker = some [0x46, 0x4A, 0x4C, 3] :=
  ⟨⟨some [0x46, 0x4A, 0x4C, 3], true, true, 3, 2, false⟩, by decide, rfl⟩

end Fjall.Version
