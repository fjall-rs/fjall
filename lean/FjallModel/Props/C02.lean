/-
  C02 — acknowledged writes survive a process crash, in commit order (log-level model incl. journal
  rotation and eviction; the torn tail of an in-flight append is C03's theorem).
-/
import FjallModel.Lemmas.DbReach
import FjallModel.Props.C03
namespace Fjall.Db
open Fjall Fjall.Spec

/-- **Crash at an operation boundary.** With the default journal persist mode every acknowledged
    operation has reached the journal file before its call returned, so the files after a process
    crash are those of a clean close: recovery yields exactly the state of all acknowledged
    operations, for all keyspaces together — with any number of sealed journals, some already
    reclaimed, and flushes of the keyspaces at different points. -/
theorem c02_crash_prefix (ops : List DOp) (hwf : ProgWF {} ops) (id : KsId) :
    ((drun {} ops).recover.absOf id).Equiv ((drun {} ops).absOf id) :=
  recover_abs _ (reach_dinv hwf) id

/-- **Crash in the middle of an operation.** The in-flight write is in the journal either as a
    complete batch or not at all (`c03_torn_tail`: an incomplete batch is discarded as a whole, at
    every byte offset, with any zero padding). In both cases recovery yields the state of a prefix
    of the committed operations: all acknowledged ones, plus possibly the in-flight one. -/
theorem c02_crash_mid_operation (ops : List DOp) (hwf : ProgWF {} ops) (items : List (KsId × LOp))
    (hitems : (DOp.write items).WF (drun {} ops)) (id : KsId) :
    -- the batch did not reach the file completely
    ((drun {} ops).recover.absOf id).Equiv ((drun {} ops).absOf id) ∧
    -- the batch is complete in the file (the call may or may not have returned)
    (((drun {} ops).write items).recover.absOf id).Equiv (((drun {} ops).write items).absOf id) :=
  ⟨c02_crash_prefix ops hwf id,
    recover_abs _ (dstep_inv _ (.write items) (reach_dinv hwf) hitems) id⟩

end Fjall.Db
