/-
  C10 — a journal file is deleted only when nothing in it is still needed (log-level model: the
  eviction rule of `JournalManager::maintenance` and the watermarks of `rotate_journal`).
-/
import FjallModel.Lemmas.DbReach
namespace Fjall.Db
open Fjall Fjall.Spec

/-- **Oldest first, and only journals whose every watermark is flushed.**  `maintenance` removes a
    prefix of the sealed journals (never a newer one before an older one), touches nothing else, and
    every removed journal passed the eviction test: for each of its watermarks `(ks, lsn)`, the
    keyspace is deleted, or its tables hold a seqno `≥ lsn`, or it holds nothing in memory. -/
theorem c10_evicts_oldest_flushed_only (db : DbL) :
    ∃ n, db.maintenance.sealed = db.sealed.drop n ∧ db.maintenance.kss = db.kss ∧
      db.maintenance.active = db.active ∧
      ∀ j ∈ db.sealed.take n, ∀ wm ∈ j.watermarks,
        (db.find wm.1 = none) ∨ (∃ k p, db.find wm.1 = some k ∧ k.persisted = some p ∧ wm.2 ≤ p) ∨
        (∃ k, db.find wm.1 = some k ∧ k.sealedMem = [] ∧ k.mem = []) := by
  obtain ⟨n, h1, h4⟩ := evictPrefix_drop db db.sealed
  refine ⟨n, h1, rfl, rfl, fun j hj wm hwm => ?_⟩
  obtain ⟨id, lsn⟩ := wm
  cases hf : db.find id with
  | none => exact .inl rfl
  | some k =>
    exact .inr (((flushedUpTo_iff k lsn).mp ((evictable_iff db j).mp (h4 j hj) id lsn hwm k hf)).imp
      (fun ⟨p, hp, h⟩ => ⟨k, p, rfl, hp, h⟩) (fun ⟨h1, h2⟩ => ⟨k, rfl, h1, h2⟩))

/-- **The number of journal files returns to one** (repaired, finding F10): once every live
    keyspace has flushed everything it holds in memory, `maintenance` removes every sealed
    journal — whatever the tables' highest seqnos say (cleared keyspaces, evicted tombstones). -/
theorem c10_returns_to_one (db : DbL) (h : ∀ k ∈ db.kss, k.sealedMem = [] ∧ k.mem = []) :
    db.maintenance.sealed = [] :=
  evictPrefix_eq_nil db db.sealed fun j _ => (evictable_iff db j).mpr fun _ lsn _ k hf =>
    (flushedUpTo_iff k lsn).mpr (.inr (h k (find_eq_some hf).1))

/-- **Watermarks cover what is only in memory**: when the journal is rotated, every keyspace that
    still holds unflushed records gets a watermark at least as high as each of them — so the sealed
    journal cannot be evicted before those records are in tables. -/
theorem c10_watermark_covers_memory (db : DbL) (k : KsL) (hk : k ∈ db.kss) (r : Rec)
    (hr : r ∈ k.sealedMem ++ k.mem) :
    ∃ j lsn, db.rotateJournal.sealed = db.sealed ++ [j] ∧ (k.id, lsn) ∈ j.watermarks ∧ r.seqno ≤ lsn := by
  obtain ⟨lsn, h1, h2⟩ := memHighest_covers db k hk r hr
  exact ⟨_, lsn, rfl, h1, h2⟩

/-- **A crash immediately after any journal deletion loses nothing**: in every state reachable by
    keyspace creation / deletion, writes, clears, memtable rotations, flushes at different times
    and in different orders, ingestion, journal rotations, earlier maintenance runs and reopens,
    running `maintenance` (which unlinks every evictable sealed journal, oldest first) and then
    crashing and recovering yields exactly the content before. -/
theorem c10_crash_after_eviction_loses_nothing (ops : List DOp) (hwf : ProgWF {} ops) (id : KsId) :
    ((drun {} ops).maintenance.recover.absOf id).Equiv ((drun {} ops).absOf id) := by
  rw [← maintenance_absOf (drun {} ops)]
  exact recover_abs _ (maintenance_inv _ (reach_dinv hwf)) id

/-! Non-vacuity: two keyspaces, journal rotation, only one flushed → not evicted; then the other. -/
def exDb : DbL :=
  (((((({} : DbL).createKs "a").1.createKs "b").1.write [(1, .put [1] [1]), (2, .put [2] [2])]).rotateJournal).flush 1)
example : exDb.maintenance.sealed.length = 1 ∧ (exDb.flush 2).maintenance.sealed.length = 0 := by decide

/-! Regression for F10: keyspace 1 is cleared after the rotation; flushing everything empties the list. -/
example : (((exDb.write [(1, .clear)]).flush 1).flush 2).maintenance.sealed.length = 0 := by decide

end Fjall.Db
