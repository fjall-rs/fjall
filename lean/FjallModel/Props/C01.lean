/-
  C01 — every keyspace behaves like an ordered byte-string map; background maintenance is
  invisible; point reads and scans agree.
-/
import FjallModel.Lemmas.KvRefine
namespace Fjall.Mvcc
open Fjall Fjall.Spec

/-- **Ordered-map equivalence.** For every program over any number of keyspaces — inserts,
    removes, batches, clears, bulk ingestions, with memtable rotations, flushes (any GC watermark)
    and compactions (any contiguous segment of runs, any watermark, tombstone eviction at the last
    run) placed *anywhere* — every read (get, contains_key, size_of, range scans with any bounds,
    len, is_empty, first / last) returns what a plain sorted map per keyspace returns when the
    maintenance operations are simply erased.  A batch may name a key any number of times (all
    its items share one seqno; the memtable replaces an entry with the same key and seqno, so the
    last item wins, as in the map).  `WF` only restricts ingestions, which the real code refuses
    unless their keys are strictly ascending. -/
theorem c01_refines_map (prog : List KvOp) (hwf : ∀ op ∈ prog, op.WF) :
    (kvRun {} prog).2 = (specRun (fun _ => []) prog).2 :=
  (kv_run_refines {} _ init_rel prog hwf).1

/-- **Point reads and scans agree** in every reachable state: the first-hit lookup that `get`
    performs returns exactly what the merging scan shows for that key. -/
theorem c01_get_scan_agree (prog : List KvOp) (hwf : ∀ op ∈ prog, op.WF) (ks : KsId) (k : Key) (v : Val) :
    let s := (kvRun {} prog).1
    ((k, v) ∈ ((s.trees ks).absMap none).toList ↔ (s.trees ks).pointGet none k = some v) :=
  get_scan_agree _ none ((kv_run_refines {} _ init_rel prog hwf).2 ks).inv.ordered k v

/-- **Maintenance is invisible** (single steps, any reachable tree): rotation, flush and
    compaction leave the logical content of a tree unchanged. -/
theorem c01_maintenance_invisible (t : Tree) (h : Inv t) (k : Key) :
    t.rotate.absGet none k = t.absGet none k ∧
    (∀ w, (t.flush w).absGet none k = t.absGet none k) ∧
    (∀ i n w, (t.compact i n w).absGet none k = t.absGet none k) :=
  ⟨rotate_abs t none k, fun w => flush_abs t w h k, fun i n w => compact_abs t i n w h k⟩

/-- the invariant that makes first-hit reads correct is preserved by every operation -/
theorem c01_invariant_reachable (prog : List KvOp) (hwf : ∀ op ∈ prog, op.WF) (ks : KsId) :
    Inv ((kvRun {} prog).1.trees ks) :=
  ((kv_run_refines {} _ init_rel prog hwf).2 ks).inv

/-! Non-vacuity: overwrite, rotate, flush with GC, remove, compact with eviction, then read. -/
example :
    (kvRun {} [.insert 1 [1] [10], .insert 1 [1] [11], .rotate 1, .flush 1 5, .remove 1 [1],
      .insert 1 [2] [20], .rotate 1, .flush 1 5, .compact 1 0 2 9, .get 1 [1], .get 1 [2],
      .scan 1 .unbounded .unbounded]).2.drop 9
      = [.val none, .val (some [20]), .pairs [([2], [20])]] := by
  decide

end Fjall.Mvcc
