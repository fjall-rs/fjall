/-
  C04 — close and reopen reproduces the same logical content (log-level model `Db.Log`; histories
  with journal rotation, sealed journals and their eviction included).
-/
import FjallModel.Lemmas.DbReach
namespace Fjall.Db
open Fjall Fjall.Spec

/-- **Replay is idempotent** (the algebraic core of recovery): re-applying an already reflected,
    clear-free segment of the history followed by everything after it changes nothing. -/
theorem c04_replay_idempotent (m : KMap) (z y1 rest : List LOp)
    (h : ∀ op ∈ z ++ y1 ++ rest, op.isClear = false) :
    (applyAll m (z ++ y1 ++ (y1 ++ rest))).Equiv (applyAll m (z ++ y1 ++ rest)) := by
  refine applyAll_congr m (fun op hop => h op ?_) h fun k => ?_
  · simp only [List.mem_append] at hop ⊢
    rcases hop with (hop | hop) | hop | hop <;> simp [hop]
  · -- last writer wins: the second copy of `y1` hides the first
    simp only [lastOn_append, Option.or_assoc]
    rw [← Option.or_assoc (o₁ := lastOn k y1), Option.or_self]

/-- **Reopen reproduces every keyspace**, after any history of keyspace creation / deletion,
    writes, batches, clears, memtable rotations, flushes, bulk ingestion of values,
    compaction-induced lowering of the highest persisted seqno (tombstone eviction), **journal
    rotations, eviction of sealed journals**, and any number of earlier reopen cycles with further
    writes in between.  Recovery replays the sealed journals oldest first and then the active one,
    each record only if it is above the highest seqno found in its keyspace's tables before replay
    (repaired, F2 / F3 / F13), sealing the memtables after every sealed journal.
    `ProgWF` asks that writes go through live handles, that ingestion carries no tombstones (see
    `c04_ingested_tombstone_comes_back`) and that observed persisted seqnos are physically possible. -/
theorem c04_reopen_same (ops : List DOp) (hwf : ProgWF {} ops) (id : KsId) :
    ((drun {} ops).recover.absOf id).Equiv ((drun {} ops).absOf id) :=
  recover_abs _ (reach_dinv hwf) id

/-- the same set of keyspaces (ids and names) comes back -/
theorem c04_reopen_same_keyspaces (ops : List DOp) (hwf : ProgWF {} ops) :
    (drun {} ops).recover.kss.map (fun k => (k.id, k.name)) = (drun {} ops).kss.map (fun k => (k.id, k.name)) :=
  recover_names _ (reach_dinv hwf)

/-- **Known finding F13 (ingested tombstone)**: a tombstone written by bulk ingestion is not in the
    journal; once a last-level compaction evicts it (the tables' highest seqno drops) a reopen
    replays the journal's older put and the deleted key is back.  The only `ProgWF` clause this
    history breaks is "ingestion carries values only". -/
theorem c04_ingested_tombstone_comes_back :
    let ops : List DOp := [.createKs "a", .write [(1, .put [1] [2])], .rotate 1, .flushSealed 1,
      .ingest 1 [([1], none)], .lowerPersisted 1 none]
    ((drun {} ops).absOf 1).get [1] = none ∧ ((drun {} ops).recover.absOf 1).get [1] = some [2] := by
  decide

/-! Non-vacuity: ingestion over a journaled key, tombstone eviction, reopen, write, reopen; two
    keyspaces with journal rotations, one flushed, eviction, reopen. -/
example : ProgWF {} [.createKs "a", .write [(1, .put [1] [2]), (1, .del [5])], .rotate 1, .flushSealed 1,
    .ingest 1 [([1], some [9]), ([7], some [7])], .write [(1, .del [7])], .rotate 1, .flushSealed 1,
    .lowerPersisted 1 (some 3), .reopen, .write [(1, .put [8] [8])], .reopen] := by
  decide

example :
    let ops : List DOp := [.createKs "a", .createKs "b", .write [(1, .put [1] [1]), (2, .put [2] [2])], .rotateJournal,
      .write [(1, .put [3] [3])], .rotate 1, .flushSealed 1, .rotateJournal, .maintenance, .write [(2, .del [2])],
      .reopen, .rotate 2, .flushSealed 2, .maintenance]
    ProgWF {} ops ∧ (drun {} ops).sealed.length = 0 ∧
      ((drun {} ops).kss.map fun k => k.abs.toList) = [[([1], [1]), ([3], [3])], []] := by
  decide

end Fjall.Db
