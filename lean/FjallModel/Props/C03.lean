/-
  C03 — batches are all-or-nothing when the journal ends at any byte: `readJournal` on complete
  batches followed by a batch cut anywhere and zero padding (`c03_torn_tail`), and on the file cut to
  the length the reader reports, with a new batch appended (`c03_repair_then_append`).
-/
import FjallModel.Lemmas.Torn
import FjallModel.Props.C15
namespace Fjall.Journal
open Fjall

/-- **Torn tail.** After any complete batches `bs`, a further batch `b` cut at *any* byte offset
    `n` before its end, followed by *any* amount `m` of zero padding (the preallocated tail),
    is discarded as a whole: the reader returns exactly `bs`, raises no error, and truncates the
    file to the end of `bs`. -/
theorem c03_torn_tail (p : Params) (c : Codec) (h : Bytes → Nat) (hp : p.Valid) (hc : c.Law)
    (hh : ∀ x, h x < 2^64) (bs : List WBatch) (hbs : ∀ b ∈ bs, b.WF c) (b : WBatch)
    (hb : b.WF c) (n m : Nat) (hn : n < (encodeBatch p c h b).length) :
    readJournal p c h (encodeBatches p c h bs ++ ((encodeBatch p c h b).take n ++ zeros m)) =
      ⟨bs.map WBatch.toBatch, (encodeBatches p c h bs).length, none⟩ := by
  rw [readJournal_prefix h hp hc hh bs hbs, torn_batch h _ hp hc hh b hb _ _ n m hn]
  simp [ReadResult.prepend]

/-- **Repair then append.** The file the reader leaves behind (cut to `finalLen`) is a clean
    journal again: appending a new batch `b'` to it makes `bs ++ [b']` recoverable. -/
theorem c03_repair_then_append (p : Params) (c : Codec) (h : Bytes → Nat) (hp : p.Valid)
    (hc : c.Law) (hh : ∀ x, h x < 2^64) (bs : List WBatch) (hbs : ∀ b ∈ bs, b.WF c) (b : WBatch)
    (hb : b.WF c) (n m : Nat) (hn : n < (encodeBatch p c h b).length) (b' : WBatch)
    (hb' : b'.WF c) :
    let file := encodeBatches p c h bs ++ ((encodeBatch p c h b).take n ++ zeros m)
    let repaired := file.take (readJournal p c h file).finalLen
    readJournal p c h (repaired ++ encodeBatch p c h b') =
      ⟨(bs ++ [b']).map WBatch.toBatch, (encodeBatches p c h (bs ++ [b'])).length, none⟩ := by
  intro file repaired
  have hrep : repaired = encodeBatches p c h bs := by
    show file.take (readJournal p c h file).finalLen = _
    rw [c03_torn_tail p c h hp hc hh bs hbs b hb n m hn]
    exact List.take_left
  have henc : encodeBatches p c h (bs ++ [b']) = encodeBatches p c h bs ++ encodeBatch p c h b' :=
    (encodeBatches_append ..).trans (congrArg _ (List.append_nil _))
  rw [hrep, ← henc]
  exact c15_roundtrip p c h hp hc hh (bs ++ [b']) (forall_mem_snoc hbs hb')

/-! Non-vacuity: a concrete batch meets the hypothesis `hn` (the other hypotheses: C15). -/
example : (5 : Nat) < (encodeBatch Params.default idCodec (fun _ => 0) exBatch1).length := by
  decide

end Fjall.Journal
