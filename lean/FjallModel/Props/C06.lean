/-
  C06 — a committed batch becomes visible to readers atomically (Conc model: every thread schedule
  of writers, snapshot-taking readers, version registrations and memtable rotations).
-/
import FjallModel.Lemmas.Conc
namespace Fjall.Conc

/-- **Atomic visibility, for every program and every schedule** (repaired code, finding F6):
    each read through a snapshot / read transaction / scan with instant `i` returns the value of the
    state in which exactly the writes with seqno below `i` are applied, each entirely — although
    writers apply their items one by one, other threads draw seqnos and advance the shared visible
    seqno in between, and `open` reads the counter and the write floor in two separate steps. -/
theorem c06_atomic (progs : List (List Cmd)) (sched : List Tid) :
    AtomicVisible (run {} (init progs) sched) :=
  (reach_inv progs sched).atomicVisible

/-- **Commit order**: the journal order of writes is their seqno order, so a view that sees a write
    (`seqno < i`) sees every write committed before it. -/
theorem c06_commit_order (progs : List (List Cmd)) (sched : List Tid) (i : Nat) :
    let s := run {} (init progs) sched
    s.batches.Pairwise (fun a b => a.1 < b.1) ∧
    ∀ pre b post, s.batches = pre ++ [b] ++ post → b.1 < i → ∀ b' ∈ pre, b'.1 < i := by
  intro s
  have h := (reach_inv progs sched).journal.sorted
  refine ⟨h, fun pre b post hb hbi b' hb' => Nat.lt_trans ?_ hbi⟩
  rw [show (run {} (init progs) sched).batches = _ from hb, List.append_assoc] at h
  exact (List.pairwise_append.mp h).2.2 b' hb' b List.mem_cons_self

/-- **No view ever reaches a write in flight**: in every reachable state every view's instant is at
    most the seqno of the write that currently holds the journal lock (so none of its items, applied
    or not, is visible to it), and at most the seqno generator (so no later write is). -/
theorem c06_view_below_inflight (progs : List (List Cmd)) (sched : List Tid) (t : Tid) (th : Thread) (i : Nat)
    (hth : (run {} (init progs) sched).threads[t]? = some th) (hv : th.view = some i) :
    i ≤ (run {} (init progs) sched).counter ∧
    ∀ sq, inflight (run {} (init progs) sched) = some sq → i ≤ sq :=
  have h := reach_inv progs sched
  have hi := ((h.thrOk t th hth).view i hv).2
  ⟨Nat.le_trans hi h.horizon_le, fun _ hsq => horizon_of_inflight hsq ▸ hi⟩

/-! The schedule of finding F6: a writer applies the first of two items, a compaction of another
    keyspace registers a version (visible seqno jumps past the batch), a reader opens a snapshot and
    reads both keys. -/
def f6Progs : List (List Cmd) :=
  [[.write [⟨1, [1], some [9]⟩, ⟨1, [2], some [9]⟩]], [.register], [.snap, .read 1 [1], .read 1 [2]]]
def f6Sched : List Tid := [0, 0, 0, 0, 1, 1, 2, 2, 2, 2, 0, 0, 0]

/-- **The code before the repair violates the property** (finding F6, fixed): with `open` handing out
    the raw counter the reader sees the first item of the batch and not the second. -/
theorem c06_unrepaired_counterexample : ¬ AtomicVisible (run { useFloor := false } (init f6Progs) f6Sched) := by
  decide

/-- non-vacuity: under the repaired protocol the same schedule yields two observations through a
    view that was held down to the write floor -/
example : (run {} (init f6Progs) f6Sched).obs.length = 2 ∧
    (run {} (init f6Progs) f6Sched).obs.all (fun o => o.view = 0 ∧ o.res = none) := by decide

end Fjall.Conc
