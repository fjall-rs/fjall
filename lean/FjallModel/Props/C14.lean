/-
  C14 — concurrent single operations are linearizable and no write is lost (Conc model), and where
  that claim ends (F27: a point read against a scan opened after it); the write stall lets every
  writer proceed (Stall model: no deadlock and bounded work for the code as it is, a deadlock each
  for the code before fix F24 and for seeded change C14-2); the halt on too many L0 runs lets the
  writer go once a compaction has brought the count down (L0Halt model).
-/
import FjallModel.Lemmas.ConcLin
import FjallModel.Lemmas.StallRank
import FjallModel.Conc.L0Halt
namespace Fjall.Conc

/-- **Linearizability of reads and writes**, for every program and schedule: replaying the
    linearization points in history order — a write takes effect when its item is applied to the
    memtable (inside the journal critical section), a `get`-style read when it reads — against a
    plain sequential map reproduces the result of every read. -/
theorem c14_linearizable (progs : List (List Cmd)) (sched : List Tid) :
    Linearizable (run {} (init progs) sched).log :=
  (reach_linv progs sched).lin.ok

/-- **Real-time order**: in the history, calls and returns of a thread alternate and every
    linearization point of an operation lies between its call and its return.  Hence the
    linearization order extends the real-time order: if operation A returned before operation B was
    called, A's point precedes B's; in particular a read that starts after a write returned sees
    that write or a later one. -/
theorem c14_real_time (progs : List (List Cmd)) (sched : List Tid) :
    WellBracketed (run {} (init progs) sched).log :=
  (reach_linv progs sched).wb.ok

/-- **Seqno order = journal order = apply order**: the journal's writes carry strictly increasing
    seqnos and the memtables received their entries in non-decreasing seqno order. -/
theorem c14_orders_agree (progs : List (List Cmd)) (sched : List Tid) :
    let s := run {} (init progs) sched
    s.batches.Pairwise (fun a b => a.1 < b.1) ∧ s.store.Pairwise (fun a b => a.seqno ≤ b.seqno) := by
  have hi := reach_inv progs sched
  exact ⟨hi.journal.sorted, hi.store_sorted⟩

/-- **No write is lost**: whenever no write is in flight (in particular after all threads have
    finished) the memtables hold exactly the items of all journaled = acknowledged writes, each
    entirely, in seqno order; the visible content is the acknowledged writes applied in that order. -/
theorem c14_final_content (progs : List (List Cmd)) (sched : List Tid)
    (hq : (run {} (init progs) sched).lock = none) :
    (run {} (init progs) sched).store = specStore (run {} (init progs) sched).batches :=
  (reach_inv progs sched).store_eq (floored_false_inflight (floored_of_free hq))

/-! Non-vacuity: two writers on one key, a reader between them, and a rotation. -/
example :
    let s := run {} (init [[.write [⟨1, [1], some [1]⟩], .readTop 1 [1]], [.write [⟨1, [1], none⟩]], [.readTop 1 [1], .rotate]])
      [0, 0, 1, 0, 0, 2, 0, 0, 1, 1, 1, 2, 2, 1, 1, 1, 0, 2, 2, 2]
    s.lock = none ∧ s.batches.length = 2 ∧ (linRun s.log).1.length = 2 ∧ s.log.length = 12 ∧
    s.threads.all (fun th => th.prog.isEmpty) := by
  decide

/-- the schedule of known finding F27: a writer has applied its item and has not published yet;
    another thread reads the key with `get` (latest state: sees it), then opens a scan (a view
    at the write floor: does not see it). -/
def f27Progs : List (List Cmd) := [[.write [⟨1, [1], some [9]⟩]], [.readTop 1 [1], .snap, .read 1 [1]]]
def f27Sched : List Tid := [0, 0, 0, 0, 1, 1, 1, 1]

/-- **Point reads and scans are not linearizable together** (known finding F27, unchanged code):
    in one thread, `get` returns a value and the scan opened *afterwards* does not contain it.
    `c14_linearizable` is about writes and point reads; a scan is a snapshot read (C06), whose
    instant is capped by the write floor while the write is between its apply and its publish. -/
theorem c14_get_then_scan_counterexample :
    let s := run {} (init f27Progs) f27Sched
    Ev.readTop 1 1 [1] (some [9]) ∈ s.log ∧ s.obs = [⟨1, 0, 1, [1], none⟩] := by
  decide

end Fjall.Conc

namespace Fjall.Stall

/-- **No deadlock between writers, the stall check and the workers** (the code after fix F24:
    workers never wait for room in their own channel; writers leave the journal critical section
    before the stall check).  For every channel capacity, every halt threshold ≥ 1, every
    compaction fan-out, any number of writers with any programs (any pattern of writes that push
    the memtable over its limit), at least one worker, and every schedule: in every reachable
    state in which some writer has not finished, some thread's next step is effective - it is not
    waiting for the lock, a message, room in the channel or a flush - and that step lowers `rank`. -/
theorem c14_stall_no_deadlock (cfg : Cfg) (hc : cfg.Live) (progs : List (List Bool)) (nworkers : Nat)
    (hn : 0 < nworkers) (sched : List Tid) :
    let s := run cfg (init progs nworkers) sched
    s.done = false → ∃ tid, enabled cfg s tid = true ∧ rank cfg (stepT cfg s tid) < rank cfg s := by
  intro s hnd
  have hwk : s.workers ≠ [] := by
    apply List.ne_nil_of_length_pos
    rw [run_workers_length, init, List.length_replicate]; exact hn
  obtain ⟨tid, he⟩ := progress cfg hc s (run_inv cfg hc _ sched (init_inv progs nworkers)) hwk hnd
  exact ⟨tid, he, step_rank cfg s tid he⟩

/-- **Bounded work**: whatever the schedule, at most `(11 + 2·fanout) · (number of writes)` steps
    are effective.  With `c14_stall_no_deadlock`: a scheduler that keeps running threads whose
    next step is effective - any fair scheduler - brings every writer to the end of its program. -/
theorem c14_stall_bounded_work (cfg : Cfg) (hc : cfg.Live) (progs : List (List Bool)) (nworkers : Nat)
    (sched : List Tid) :
    effSteps cfg (init progs nworkers) sched ≤ (11 + 2 * cfg.fanout) * (progs.map List.length).sum := by
  -- the bound holds for every configuration: `hc` is not used, `effSteps_le` needs neither `Live` nor `Inv`
  have := effSteps_le cfg (init progs nworkers) sched
  rw [rank_init] at this
  omega

/-- Before fix F24 (the worker notifies with a blocking send): a reachable state in which the
    writer waits for a flush, the only worker waits for room in the channel it alone drains, and
    nothing can move.  (Capacity and threshold scaled down to 1; the schedule is the real one:
    rotation requests fill the channel while the worker is busy.) -/
theorem c14_worker_blocking_send_deadlocks :
    let cfg : Cfg := { cap := 1, limit := 1, workerBlockingSend := true }
    let s := run cfg (init [[true, true]] 1)
      [.writer 0, .writer 0, .writer 0, .worker 0 .rot, .writer 0, .writer 0, .worker 0 .rot, .worker 0 .rot]
    s.done = false ∧ ∀ tid, enabled cfg s tid = false :=
  ⟨by decide, enabled_false_of_forall (by decide) fun pick => by cases pick <;> decide⟩

/-- Seeded change C14-2 (the journal lock is released only after the stall check): the halted
    writer keeps the lock the flush worker needs. -/
theorem c14_stall_inside_lock_deadlocks :
    let cfg : Cfg := { limit := 1, unlockBeforeStall := false }
    let s := run cfg (init [[true, false]] 1)
      [.writer 0, .writer 0, .writer 0, .worker 0 .rot, .worker 0 .rot, .worker 0 .rot, .writer 0, .writer 0,
       .worker 0 .flush]
    s.done = false ∧ ∀ tid, enabled cfg s tid = false :=
  ⟨by decide, enabled_false_of_forall (by decide) fun pick => by cases pick <;> decide⟩

/-! Non-vacuity: the same two-write program under the real protocol runs to completion. -/
example :
    let s := run { cap := 1, limit := 1 } (init [[true, true]] 1)
      [.writer 0, .writer 0, .writer 0, .worker 0 .rot, .writer 0, .writer 0, .worker 0 .rot, .worker 0 .rot,
       .worker 0 .rot, .worker 0 .rot, .worker 0 .rot, .writer 0]
    s.done = true := by decide

end Fjall.Stall

namespace Fjall.L0Halt

/-- **The L0 halt lets the writer go as soon as the run count is below the threshold**: after any
    sequence of flushes, compactions and iterations of the halt loop, if L0 now has fewer runs than
    the threshold, the writer's next iteration leaves the loop (or it had left already). -/
theorem c14_l0_halt_releases (cfg : Cfg) (hp : cfg.pollCurrent = true) (s : State) (evs : List Ev)
    (hl : (run cfg s evs).l0 < cfg.haltAt) : (step cfg (run cfg s evs) .writer).w = .done := by
  generalize run cfg s evs = r at hl
  cases hw : r.w with
  | idle => simp [step, hw, Nat.not_le.mpr hl]
  | halted seen => simp [step, hw, hp, Nat.not_le.mpr hl]
  | done => simp [step, hw]

/-- polling a version fetched once before the loop (seeded change C14-7): a writer that entered the
    loop never leaves it – whatever flushes, compactions and iterations follow -/
theorem c14_l0_halt_stale_version_never_releases (cfg : Cfg) (hp : cfg.pollCurrent = false) (s : State)
    (seen : Nat) (hw : s.w = .halted seen) (hs : seen ≥ cfg.haltAt) (evs : List Ev) :
    (run cfg s evs).w = .halted seen :=
  List.foldlRecOn (motive := fun s : State => s.w = .halted seen) evs _ hw fun s hw e _ => by
    cases e with
    | writer => simp [step, hw, hp, hs]
    | flush => exact hw
    | compact to => exact hw

/-- non-vacuity, the probe's schedule: 30 runs, the writer halts; a compaction leaves one run; the
    writer proceeds – and does not with the stale version -/
example : (run {} { l0 := 30 } [.writer, .writer, .compact 1, .writer]).w = .done ∧
    (run {} { l0 := 30 } [.writer, .writer]).w = .halted 30 ∧
    (run { pollCurrent := false } { l0 := 30 } [.writer, .writer, .compact 1, .writer]).w = .halted 30 := by
  decide

end Fjall.L0Halt
