/-
  C13 — fail-stop after a journal I/O failure: the database-level write paths (`jstep`, `jrun`) over
  the writer model under any fault plan (the n-th journal system call fails, and every later one
  unless the fault is transient; the n-th may be a short write instead). An error poisons, and a
  poisoned database acknowledges nothing more.
-/
import FjallModel.Lemmas.Writer
namespace Fjall.Journal
open Fjall

/-- every operation that reports an error leaves the database poisoned -/
theorem c13_error_poisons (db : JDb) (op : JOp) (h : (jstep db op).2 ≠ .ok) :
    (jstep db op).1.poisoned = true :=
  jstep_error_poisons db op h

/-- **Fail-stop.** For every workload and every fault plan: once an operation has reported an
    error, no later insert / remove / clear / non-empty batch / transaction commit / persist is
    acknowledged. -/
theorem c13_fail_stop (db : JDb) (ops : List JOp) (i j : Nat) (hij : i < j) (hj : j < ops.length)
    (hi : (jrun db ops).2[i]? ≠ some .ok) (hne : (ops[j]).isEmptyBatch = false) :
    (jrun db ops).2[j]? = some .poisoned := by
  obtain ⟨d, rfl⟩ := Nat.exists_eq_add_of_le hij
  rw [← List.getElem?_drop, jrun_after_error db ops i hi, List.getElem?_map, List.getElem?_drop,
    List.getElem?_eq_getElem hj]
  exact congrArg some (if_neg (Bool.eq_false_iff.mp hne))

/-- a poisoned database touches the journal no more -/
theorem c13_poisoned_is_inert (db : JDb) (op : JOp) (hp : db.poisoned = true)
    (he : op.isEmptyBatch = false) : (jstep db op).1 = db :=
  congrArg (·.1) (jstep_of_poisoned db op hp)

/-! Non-vacuity: the write(2) issued by the BufWriter *inside* a batch append fails (this path did
    not poison before the repair of finding F8): the batch reports an error and the following
    insert, clear and persist are refused. -/
example :
    (jrun { w := { cap := 16, failAt := some 1 } }
      [.batch [[1, 1, 1, 1, 1, 1], [2, 2, 2, 2, 2, 2], [3, 3, 3, 3, 3, 3]] (some .buffer),
       .single [[4]], .clear [[5]], .persist .syncAll]).2
      = [.io, .poisoned, .poisoned, .poisoned] := by
  decide

end Fjall.Journal
