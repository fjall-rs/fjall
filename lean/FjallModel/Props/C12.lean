/-
  C12 — keyspaces are isolated; a deleted keyspace never comes back (log-level model).
-/
import FjallModel.Lemmas.DbReach
namespace Fjall.Db
open Fjall Fjall.Spec

/-- **Isolation**: a write / batch / clear that does not name keyspace `b` leaves `b` unchanged. -/
theorem c12_isolation (db : DbL) (items : List (KsId × LOp)) (b : KsId)
    (hb : ∀ it ∈ items, it.1 ≠ b) : (db.write items).absOf b = db.absOf b := by
  rw [write_absOf, DbL.absOf]
  cases hf : db.find b with
  | none => rfl
  | some k =>
    rw [Option.elim_some, List.filter_eq_nil_iff.mpr fun r hr => ?_]
    · rfl
    · obtain ⟨it, hit, rfl⟩ := List.mem_map.mp hr
      simpa [(find_eq_some hf).2] using hb it hit

/-- after `delete_keyspace` the keyspace is gone -/
theorem c12_deleted_is_gone (db : DbL) (id : KsId) : (db.deleteKs id).find id = none :=
  List.find?_eq_none.mpr fun k hk => by simpa using (List.mem_filter.mp hk).2

/-- **No id is handed out while the journal still mentions it** (repaired, F1): in every reachable
    state, a newly created keyspace gets an id that no live keyspace has and no record in any journal file
    (sealed or active) carries — so records of a deleted keyspace can never be replayed into a later one. -/
theorem c12_new_id_is_fresh (ops : List DOp) (hwf : ProgWF {} ops) (name : String)
    (hnew : ∀ k ∈ (drun {} ops).kss, k.name ≠ name) :
    let db := drun {} ops
    (∀ k ∈ db.kss, k.id ≠ (db.createKs name).2) ∧ (∀ r ∈ allRecs db, r.ks ≠ (db.createKs name).2) := by
  intro db
  have h := reach_dinv hwf
  rw [createKs_new db name hnew]
  exact ⟨fun k hk => Nat.ne_of_lt (h.idsBelow k hk), fun r hr => Nat.ne_of_lt (h.recsBelow r hr)⟩

/-- a re-created name starts empty -/
theorem c12_recreated_is_empty (ops : List DOp) (hwf : ProgWF {} ops) (name : String)
    (hnew : ∀ k ∈ (drun {} ops).kss, k.name ≠ name) :
    let db := drun {} ops
    (db.createKs name).1.absOf (db.createKs name).2 = [] :=
  createKs_new_absOf _ name hnew fun k hk => Nat.ne_of_lt ((reach_dinv hwf).idsBelow k hk)

/-! Regression for findings F1 / F20 (fixed): delete the keyspace with the highest id, reopen,
    create a new keyspace, reopen — the old record is not replayed into it. -/
example :
    (drun {} [.createKs "a", .createKs "b", .write [(2, .put [7] [7])], .deleteKs 2, .reopen,
      .createKs "c", .reopen]).kss.map (fun k => (k.id, k.name, k.abs.toList)) = [(1, "a", []), (3, "c", [])] := by
  decide

end Fjall.Db
