/-
  C07 — optimistic transactions are serializable.  One transaction: results and writes depend on the
  snapshot only through the recorded footprints, so a validated commit does at its commit point what
  it did on its snapshot.  Whole histories (`Lemmas/SsiHist`): the committed transactions run serially
  reproduce results and log.  The commit mutex (`Lemmas/CommitMutex`): why a commit is one event.
-/
import FjallModel.Lemmas.Ssi
import FjallModel.Lemmas.SsiHist
import FjallModel.Lemmas.CommitMutex
namespace Fjall.Tx
open Fjall Fjall.Spec

/-- **Footprint soundness** for whole in-transaction programs (all read methods: get,
    contains_key, size_of, range, prefix, iter, first/last, len, is_empty; all write methods incl.
    take / fetch_update / update_fetch with any update function). -/
theorem c07_footprint_sound (t t' : OTx) (prog : List XOp) (hs : SameOwn t t')
    (ha : AgreeOn (prog.flatMap footOf) t.base.snap t'.base.snap) :
    (xrun t prog).2 = (xrun t' prog).2 ∧ SameOwn (xrun t prog).1 (xrun t' prog).1 :=
  xrun_footprint_sound t t' prog hs ha

/-- **Validated commits are serializable at their commit point.**
    `S` is the transaction's snapshot, `S'` the committed state at the moment of its commit; they
    differ at most on keys written by the transactions `others` committed in between.  If
    validation finds no conflict with any of those, then executing the same program on `S'`
    (i.e. serially, after all of them) yields the same observations and the same write set. -/
theorem c07_validated_commit_replays (S S' : KsId → KMap) (i i' : Nat) (prog : List XOp)
    (others : List (List (KsId × Key)))
    (hvalid : ∀ c ∈ others,
      hasConflict (xrun { instant := i, base := { snap := S } } prog).1.reads c = false)
    (hdiff : ∀ ks k, (∀ c ∈ others, (ks, k) ∉ c) → (S ks).get k = (S' ks).get k) :
    (xrun { instant := i', base := { snap := S' } } prog).2
        = (xrun { instant := i, base := { snap := S } } prog).2 ∧
    (xrun { instant := i', base := { snap := S' } } prog).1.base.commitBatch
        = (xrun { instant := i, base := { snap := S } } prog).1.base.commitBatch :=
  xrun_congr_snap (agreeOn_of_valid i fun ks k hk => hdiff ks k fun c hc => hk c (hvalid c hc)) i i'

/-- every key a transaction writes is in its conflict-key set (so `hdiff` above is what the
    committed log gives) -/
theorem c07_writes_marked (t : OTx) (op : XOp) :
    ∀ e ∈ (xstep t op).1.base.mem, e ∈ t.base.mem ∨ (e.ks, e.key) ∈ (xstep t op).1.wkeys :=
  xstep_marks t op

/-- Finding F7 (repaired by a `fix:` commit): with `size_of` recording no footprint, footprint
    soundness fails — two snapshots that agree on everything recorded give different answers. -/
theorem c07_counterexample_size_of_unmarked :
    let t : OTx := { instant := 0, base := { snap := fun _ => [([1], some [7])] } }
    let t' : OTx := { instant := 0, base := { snap := fun _ => [] } }
    AgreeOn [] t.base.snap t'.base.snap ∧
      (xstep t (.sizeOf 0 [1])).2 ≠ (xstep t' (.sizeOf 0 [1])).2 := by
  refine ⟨fun ks k ⟨f, hf, _⟩ => by simp at hf, by decide⟩

/-! Non-vacuity of `c07_validated_commit_replays`: a transaction that scanned `[a, c)` and wrote
    `z`, while another transaction wrote `x` (outside every footprint). -/
example :
    hasConflict (xrun { instant := 3, base := { snap := fun _ => [([0x62], some [1])] } }
      [.range 0 (.incl [0x61]) (.excl [0x63]), .insert 0 [0x7a] [9]]).1.reads [(0, [0x78])] = false := by
  decide

/-- **Serializability of whole histories.**  For every history of optimistic transactions — any
    number open at once, begins, reads and writes of all kinds, commits (validated or refused),
    rollbacks and tracker GC runs interleaved in any order — the transactions that committed
    writes, taken in commit order and executed *one after the other*, each from the log its
    predecessors produced, return exactly the results they returned in the concurrent history and
    write exactly the batches that make up the committed log.  (`i'` = the snapshot instant the
    serial execution would have: irrelevant.)  Pruning of the conflict table is covered: it never
    removes an entry an open transaction still has to be validated against (tracker invariant). -/
theorem c07_serializable (evs : List HEv) :
    let s := hrun {} evs
    Chain s.done s.db.log ∧
    ∀ d ∈ s.done, ∀ i', (xrun (fresh i' (stateTop d.before)) d.prog).2 = d.outs ∧
      (xrun (fresh i' (stateTop d.before)) d.prog).1.base.commitBatch = d.batch := by
  intro s
  have h := hrun_inv {} evs init_hinv
  exact ⟨h.chain, h.doneOk⟩

/-- **Read-only transactions** observe the committed state as of their snapshot: executed alone
    right after the last commit their snapshot contains, they return the same results. -/
theorem c07_readonly_at_snapshot (evs : List HEv) :
    ∀ d ∈ (hrun {} evs).doneRo, ∀ i', (xrun (fresh i' (stateTop d.before)) d.prog).2 = d.outs :=
  (hrun_inv {} evs init_hinv).roOk

/-- a refused commit leaves the committed log untouched -/
theorem c07_conflict_no_effect (db : SsiDb) (t : OTx) (h : (db.commit t).2 = .conflict) :
    (db.commit t).1.log = db.log ∧ (db.commit t).1.seqno = db.seqno := by
  have := SsiDb.commit_conflict h
  exact ⟨this ▸ rfl, this ▸ rfl⟩

/-! Non-vacuity: two transactions race on a write skew; the second commit is refused, the first is
    in `done`; a third one commits afterwards. -/
example :
    let s := hrun {} [.begin, .begin, .op 0 (.get 1 [1]), .op 1 (.get 1 [2]), .op 0 (.insert 1 [2] [9]),
      .op 1 (.insert 1 [1] [9]), .commit 1, .commit 0, .begin, .op 0 (.get 1 [1]), .op 0 (.insert 1 [3] [3]), .commit 0]
    s.done.length = 2 ∧ s.db.log.length = 2 ∧ s.open_.length = 0 := by
  decide

end Fjall.Tx

/-! ### Why a commit may be taken as one event: the commit mutex across threads

    `Oracle::with_commit` validates and applies in separate steps; `CommitMutex` runs any number of
    threads through those steps under every schedule.  The semantics of the two halves are
    parameters, `ssiSem` is the `Tx.Ssi` instance. -/

namespace Fjall.CommitMutex
open Fjall Fjall.Tx

/-- **Commits are atomic under the commit mutex.** For any validation / application semantics,
    any number of threads with any lists of commit requests and every schedule: at most one thread
    is inside a commit; the verdicts reported so far are those of the finished commits executed
    one after the other as single events (in the order they finished); and whenever no thread is
    inside a commit the shared state is exactly the state of that sequential execution. -/
theorem c07_commit_mutex_atomic {D T : Type} (m : Sem D T) (d0 : D) (jobs : List (List T)) (sched : List Nat) :
    let s := run {} m (init d0 jobs) sched
    (∀ i j, (s.threads i).phase ≠ .idle → (s.threads j).phase ≠ .idle → i = j) ∧
    (runAtomic m d0 (s.done.map (·.1))).2 = s.done.map (·.2) ∧
    (s.mutex = none → s.db = (runAtomic m d0 (s.done.map (·.1))).1) := by
  intro s
  have h : Inv m d0 s := run_inv {} rfl sched (init_inv jobs)
  exact ⟨fun _ _ => h.holders_equal, h.verdicts, h.free⟩

/-- a thread that has validated and not yet applied still sees the state it validated against:
    nothing was committed in between -/
theorem c07_validation_still_holds_at_apply {D T : Type} (m : Sem D T) (d0 : D) (jobs : List (List T))
    (sched : List Nat) (i : Nat) (t : T) (rest : List T) :
    let s := run {} m (init d0 jobs) sched
    (s.threads i).phase = .validated → (s.threads i).todo = t :: rest →
    m.validate (runAtomic m d0 (s.done.map (·.1))).1 t = (s.db, true) := by
  intro s
  exact (run_inv {} rfl sched (init_inv jobs)).mid i t rest

/-- the `Tx.Ssi` commit of a writing transaction is `ssiSem`'s atomic commit followed by the drop of
    the transaction's nonce: the event model's commit is the instance the theorem above is about -/
theorem c07_ssi_commit_is_atomic (db : SsiDb) (t : OTx) (hw : t.base.mem.isEmpty = false) :
    db.commit t =
      ({ (ssiSem.atomic db t).1 with tr := Tracker.step (ssiSem.atomic db t).1.tr (.close t.instant) },
       if (ssiSem.atomic db t).2 then .ok else .conflict) := by
  rw [SsiDb.commit_eq, if_neg (by rw [hw]; exact Bool.false_ne_true)]
  rfl

/-- **Without the mutex across validation and application (seeded change C07-7) commits are not
    atomic**: both withdrawals validate against the same state and both are applied; executed one
    after the other, in either order, the second one is refused. -/
theorem c07_mutex_released_after_validation_counterexample :
    let s := run { holdAcross := false } skew (init (50, 50) [[true], [false]]) [0, 0, 1, 1, 0, 1]
    s.db = (-50, -50) ∧ s.done.map (·.2) = [true, true] ∧
    (runAtomic skew (50, 50) [true, false]).2 = [true, false] ∧
    (runAtomic skew (50, 50) [false, true]).2 = [true, false] := by
  decide

/-- non-vacuity: with the mutex held the same schedule lets the second thread wait, and the state is
    the sequential one -/
example :
    let s := run {} skew (init (50, 50) [[true], [false]]) [0, 0, 1, 1, 0, 1, 1, 1]
    s.db = (-50, 50) ∧ s.done.map (·.2) = [true, false] ∧ s.mutex = none := by
  decide

end Fjall.CommitMutex
