/-
  C15 — journal records round-trip bit-exactly: one entry (`c15_decode_encode`), whole journals
  (`c15_roundtrip`), and what the reader emits on arbitrary bytes (`c15_emitted_batch_authenticated`).
-/
import FjallModel.Lemmas.ReaderSound
namespace Fjall.Journal
open Fjall

/-- Every well-formed entry decodes back to itself, whatever follows it in the file. -/
theorem c15_decode_encode (p : Params) (c : Codec) (hp : p.Valid) (hc : c.Law) (e : Entry)
    (he : e.WF c) (rest : Bytes) :
    decodeEntry p c (encodeEntry p c e ++ rest) = some (e, rest) :=
  decode_encode p c hp hc e he rest

/-- **Round trip.** Any sequence of batches (any number of items, keyspaces, kinds, clears, any
    key/value bytes within the field widths, any per-item compression choice) written by the
    journal writer is read back as exactly those batches, the file is left untouched and no error
    is raised. The reader has no configuration parameter, hence "written under one compression
    setting, read under the other" is this same statement. -/
theorem c15_roundtrip (p : Params) (c : Codec) (h : Bytes → Nat) (hp : p.Valid) (hc : c.Law)
    (hh : ∀ x, h x < 2^64) (bs : List WBatch) (hbs : ∀ b ∈ bs, b.WF c) :
    readJournal p c h (encodeBatches p c h bs) =
      ⟨bs.map WBatch.toBatch, (encodeBatches p c h bs).length, none⟩ := by
  have hr := readJournal_prefix h hp hc hh bs hbs []
  rw [List.append_nil] at hr
  rw [hr, readFrom_none h _ (decodeEntry_nil p c), stopLen_cleanAt]
  simp [ReadResult.prepend]

/-- **No batch without its checksum (arbitrary bytes).** Whatever bytes the journal file holds –
    written by this writer, torn, altered, or never written by fjall at all – every batch the
    reader hands to recovery sits in the file between a Start marker and an End marker, has
    exactly the number of payload entries the Start marker announces, consists of exactly the
    entries decoded in between, and the End marker's stored checksum equals the hash of the
    canonical re-encoding of exactly those entries. There is no other way for `readJournal` to
    emit a batch; an altered file can therefore yield different data only through a collision of
    the hash function (a parameter here; xxh3-64 in the code). No hypothesis on `x`, `p`, `c`, `h`. -/
theorem c15_emitted_batch_authenticated (p : Params) (c : Codec) (h : Bytes → Nat) (x : Bytes)
    (b : Batch) (hb : b ∈ (readJournal p c h x).batches) :
    ∃ (pre seg post : Bytes) (es : List Entry) (sum : Nat),
      x = pre ++ seg ++ post ∧
      Parses p c seg (.start es.length b.seqno :: es ++ [.fin sum]) ∧
      (∀ e ∈ es, e.isPayload = true) ∧
      b.items = itemsOf es ∧ b.clears = clearsOf es ∧
      h (encodeBody p c es) = sum :=
  (readFrom_sound p c h _ {} x (fun _ => ⟨rfl, rfl, rfl⟩) b hb).resolve_right
    fun hc => nomatch hc.1

/-! Non-vacuity: the hypotheses are met by the constants of the pinned source, by an identity
    codec, and by a concrete two-batch journal mixing a compressed item, a tombstone and a clear. -/

def idCodec : Codec :=
  { compress := fun v => v, decompress := fun s n => if s.length = n then some s else none }

theorem idCodec_law : idCodec.Law := by intro v; simp [idCodec]

example : Params.default.Valid := by decide

def exBatch1 : WBatch :=
  { seqno := 7, entries := [.item ⟨1, [0x61], [1,2,3], .value, .lz4⟩, .item ⟨2, [0x62], [], .tomb, .none⟩] }
def exBatch2 : WBatch := { seqno := 8, entries := [.clear 1] }

theorem exBatches_wf : ∀ b ∈ [exBatch1, exBatch2], b.WF idCodec := by
  intro b hb
  simp at hb
  rcases hb with rfl | rfl <;>
    simp [WBatch.WF, exBatch1, exBatch2, Entry.isPayload, Entry.WF, Item.WF, Item.stored, idCodec]

example : ∀ b ∈ [exBatch1, exBatch2], b.WF idCodec := exBatches_wf

/-- non-vacuity of `c15_emitted_batch_authenticated`: batches are emitted for a real journal -/
example (h : Bytes → Nat) (hh : ∀ x, h x < 2^64) :
    (readJournal Params.default idCodec h
      (encodeBatches Params.default idCodec h [exBatch1, exBatch2])).batches.length = 2 := by
  rw [c15_roundtrip Params.default idCodec h (by decide) idCodec_law hh [exBatch1, exBatch2]
    exBatches_wf]
  rfl

end Fjall.Journal
