/-
  C08 — inside one transaction (`Tx.Base` against a plain map per keyspace): read-your-writes, last
  write wins, commit = the final write per key exactly once.  Across threads (`Tx.Sw`, every
  schedule): single-writer transactions are serial and no update is lost; with the snapshot opened
  before the lock one is.
-/
import FjallModel.Lemmas.TxBase
import FjallModel.Lemmas.Sw
namespace Fjall.Tx
open Fjall Fjall.Spec

/-- **Read-your-own-writes / last write wins**, for every in-transaction program over any number of
    keyspaces (point reads, `contains_key`, `size_of`, scans with any bounds, inserts, removes,
    `take` / `fetch_update` / `update_fetch` with *any* update function): every output equals the
    output of a plain map per keyspace that starts as the snapshot and applies each write at once. -/
theorem c08_ryow (snap : KsId → KMap) (prog : List TOp) :
    (run { snap := snap } prog).2 = (refRun snap prog).2 :=
  (run_refines _ _ (R_init snap) prog).1

/-- a removed key is absent from point reads and scans alike; an inserted one is present in both -/
theorem c08_point_scan_agree (tx : BaseTx) (ks : KsId) (k : Key) (v : Val) :
    (k, v) ∈ (tx.view ks).toList ↔ tx.get ks k = some v := by
  rw [get_eq_view]
  exact mem_toList _ k v

/-- **Commit applies exactly the final write per key, once**: the emitted batch holds, for every
    (keyspace, key) the transaction wrote, its newest entry and nothing else for that key. -/
theorem c08_commit_final_write_once (tx : BaseTx) :
    (∀ ks k, (tx.commitBatch).find? (fun e => e.ks = ks ∧ e.key = k) = tx.newestOwn ks k) ∧
    ((tx.commitBatch).map fun e => (e.ks, e.key)).Nodup :=
  ⟨fun ks k => commitItems_find tx.mem ks k, commitItems_nodup tx.mem⟩

/-- applying that batch to the snapshot gives the transaction's own final view -/
theorem c08_commit_equals_view (tx : BaseTx) (ks : KsId) :
    (ownView tx.commitBatch (tx.snap ks) ks).Equiv (tx.view ks) :=
  ownView_commitItems tx.mem (tx.snap ks) ks

/-- rollback / drop emits nothing: a transaction that is not committed contributes no batch.
    (`rollback` consumes the transaction; the committed log is only ever extended by `commit`.) -/
theorem c08_read_only_commit_emits_nothing (snap : KsId → KMap) :
    ({ snap := snap } : BaseTx).commitBatch = [] := rfl

/-! Non-vacuity: a program that overwrites, removes, re-inserts and scans. -/
example :
    (run { snap := fun _ => [([1], some [9])] }
      [.insert 0 [1] [7], .remove 0 [1], .get 0 [1], .insert 0 [2] [5], .scan 0 .unbounded .unbounded]).2
      = [.unit, .unit, .val none, .unit, .pairs [([2], [5])]] := by
  decide

end Fjall.Tx

namespace Fjall.Sw
open Fjall Fjall.Spec Fjall.Tx

/-- **Single-writer write transactions never overlap and are serial, for every thread schedule.**
    Any number of threads, each with any list of jobs (write transactions with any program ending
    in commit or rollback/drop, and read-only snapshots), stepped in any order (`sched` = list of
    thread ids; a step of a thread that waits for the lock is a no-op):
    * at most one thread holds the single-writer lock (is between `write_tx` and the end of
      `commit` / `rollback`);
    * the committed log is exactly the batches of the committed transactions in commit order,
      each computed on the log its predecessors left (`Chain`);
    * every committed transaction returned, and wrote, exactly what it returns and writes when run
      alone on that log (`Replays`) – the concurrent history equals the serial one;
    * every read-only snapshot returned what it returns on a committed prefix of the log: nothing
      of an unfinished transaction is ever visible outside. -/
theorem c08_single_writer_serial (jobs : List (List Job)) (sched : List Nat) :
    let s := run {} (init jobs) sched
    (∀ a b, (s.threads a).phase.holds = true → (s.threads b).phase.holds = true → a = b) ∧
    Chain s.done s.log ∧ (∀ d ∈ s.done, Replays d) ∧
    (∀ d ∈ s.doneRo, (∀ i, (xrun (snapOf d.before i) d.prog).2 = d.outs) ∧
      ∃ newer, s.log = newer ++ d.before) ∧
    (∀ d ∈ s.done, ∃ (tid : Nat) (j : Job), j ∈ (jobs[tid]?).getD [] ∧ d.prog = j.ops) := by
  intro s
  have h := run_inv {} rfl sched (init_inv jobs)
  exact ⟨holders_equal h, h.chain, h.doneOk, h.roOk, h.src.fromJobs⟩

/-- **No update is lost.** Threads that concurrently append to one key through single-writer
    transactions (read-modify-write, any non-empty pieces `vs`, any schedule): the stored value is
    the concatenation of the pieces of *all* committed transactions, in commit order. -/
theorem c08_no_lost_update (jobs : List (List Job)) (sched : List Nat) (ks : KsId) (k : Key)
    (vs : List Val) (hv : ∀ v ∈ vs, v ≠ [])
    (hform : ((run {} (init jobs) sched).done.map (·.prog)) = vs.map (fun v => [appendOp ks k v])) :
    (stateTop (run {} (init jobs) sched).log ks).get k = if vs = [] then none else some vs.flatten := by
  have h := run_inv {} rfl sched (init_inv jobs)
  exact appends_all_there ks k _ _ h.chain vs hform h.doneOk

/-- With the snapshot opened *before* the lock is taken (seeded change C08-1) an update is lost:
    two threads append one byte each, both commit, one byte is stored. -/
theorem c08_snapshot_before_lock_counterexample :
    let jobs := [[{ ops := [appendOp 1 [7] [1]] }], [({ ops := [appendOp 1 [7] [2]] } : Job)]]
    let s := run { snapAfterLock := false } (init jobs) [0, 1, 0, 0, 0, 0, 1, 1, 1, 1]
    s.done.length = 2 ∧ (stateTop s.log 1).get [7] = some [2] := by
  decide

/-! Non-vacuity: the same two jobs under the real protocol – the blocked thread's steps are no-ops,
    both commit, both bytes are stored. -/
example :
    let jobs := [[{ ops := [appendOp 1 [7] [1]] }], [({ ops := [appendOp 1 [7] [2]] } : Job)]]
    let s := run {} (init jobs) [0, 1, 0, 1, 0, 0, 1, 0, 1, 1, 1, 1, 1]
    s.done.length = 2 ∧ (stateTop s.log 1).get [7] = some [1, 2] ∧ s.lock = none := by
  decide

end Fjall.Sw
