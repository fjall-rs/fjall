/-
  C11 — after reopening, new writes supersede everything recovered (log-level model).
-/
import FjallModel.Lemmas.DbReach
namespace Fjall.Db
open Fjall Fjall.Spec

/-- **The seqno counter dominates everything recovered**: after `recover` the counter is above
    every seqno held in any table or memtable of any keyspace *and* above every seqno present in
    any journal record (sealed or active, resolved or not). For every disk state. -/
theorem c11_seqno_dominates (db : DbL) :
    (∀ k ∈ db.recover.kss, ∀ r ∈ k.tables ++ k.sealedMem ++ k.mem, r.seqno < db.recover.seqno) ∧
    (∀ j ∈ db.sealed, ∀ r ∈ j.recs, r.seqno < db.recover.seqno) ∧
    (∀ r ∈ db.active.recs, r.seqno < db.recover.seqno) := by
  obtain ⟨h1, h2⟩ := recover_seqno db
  exact ⟨h1, fun j hj r hr => h2 r (mem_allRecs_sealed hj hr), fun r hr => h2 r (List.mem_append_right _ hr)⟩

/-- a write to a live keyspace replaces whatever value was there (in particular whatever was
    recovered), a remove hides it -/
theorem c11_overwrite_wins (db : DbL) (k0 : KsL) (hk : db.find k0.id = some k0) (key : Key) (v : Val) :
    ((db.write [(k0.id, .put key v)]).absOf k0.id).get key = some v ∧
    ((db.write [(k0.id, .del key)]).absOf k0.id).get key = none := by
  constructor <;> rw [write_absOf, hk] <;> simp [opsOf, applyAll, applyOp]

/-! Non-vacuity / regression for finding F11 (fixed): the journal's newest record is a clear. -/
example : (drun {} [.createKs "a", .write [(1, .put [1] [2])], .write [(1, .clear)]]).recover.seqno = 3 := by
  decide

end Fjall.Db
