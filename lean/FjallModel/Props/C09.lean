/-
  C09 — persist(SyncData | SyncAll) makes all earlier writes power-loss durable (writer model:
  `BufWriter` with its 8 KiB rule, `is_buffer_dirty`, fsync / fdatasync, any fault plan); and across
  journal rotations: which journal files a power loss leaves in the folder.
-/
import FjallModel.Lemmas.WriterDir
namespace Fjall.Journal
open Fjall

/-- **Sync means durable.** When `persist(SyncData)` / `persist(SyncAll)` returns Ok — directly, as
    the durability of a batch / transaction commit, in `rotate` or in `Journal::drop` — every byte
    handed to the writer so far is in the file *and* covered by the sync: `synced = |file|` and the
    user-space buffer is empty. Holds under every fault plan (an Ok is never reported otherwise). -/
theorem c09_sync_durable (w : Writer) (m : PersistMode) (hm : m ≠ .buffer) (hinv : w.Inv)
    (h : (w.persist m).2 = .ok) :
    (w.persist m).1.buf = [] ∧ (w.persist m).1.synced = (w.persist m).1.os.length :=
  have ⟨hb, _, hs⟩ := persist_ok w m hinv h
  ⟨hb, hs hm⟩

/-- with manual journal persist, `persist(Buffer)` is what moves earlier writes out of the process:
    after it returns Ok the user-space buffer is empty, so a process crash loses nothing written
    before it -/
theorem c09_manual_buffer (w : Writer) (hinv : w.Inv) (h : (w.persist .buffer).2 = .ok) :
    (w.persist .buffer).1.buf = [] :=
  (persist_ok w .buffer hinv h).1

/-- the invariant needed above holds after every append and every persist -/
theorem c09_inv_after_write (w : Writer) (ps : List Bytes) : (w.writePieces ps).1.Inv :=
  writePieces_inv w ps

theorem c09_inv_after_persist (w : Writer) (m : PersistMode) (hinv : w.Inv) (h : (w.persist m).2 = .ok) :
    (w.persist m).1.Inv :=
  persist_inv w m hinv h

/-- **A sealed journal is durable as a whole**: when a journal rotation succeeds, the file that was
    sealed holds every byte handed to the writer before the rotation and all of it is covered by
    the `fsync` — whatever was or was not synced before; the new journal starts empty with an empty
    user-space buffer.  (Later persists only sync the new file.) -/
theorem c09_rotate_seals_durably (db : JDb) (hinv : db.w.Inv) (h : (jstep db .rotate).2 = .ok) :
    ∃ content, (jstep db .rotate).1.sealed = db.sealed ++ [(content, content.length)] ∧
      content = (db.w.persist .syncAll).1.os ∧
      (jstep db .rotate).1.w.os = [] ∧ (jstep db .rotate).1.w.buf = [] := by
  obtain ⟨_, e⟩ | ⟨_, hs⟩ := jstep_cases db .rotate
  · rw [e] at h; cases h
  generalize jstep db .rotate = x at hs h ⊢
  cases hs with
  | failed _ _ _ hr => exact absurd h hr
  | done _ _ hop => exact absurd rfl hop
  | rotated w' hq =>
    have hok := persist_ok db.w .syncAll hinv (congrArg (·.2) hq)
    rw [hq] at hok
    exact ⟨w'.os, by rw [hok.2.2 nofun], (congrArg (·.1.os) hq).symm, rfl, hok.1⟩

/-- **Journal files survive a power loss.** For every database state at an operation boundary
    (`FilesOk`: holds for a fresh database) and every sequence of operations – writes, batches,
    persists at any level, any number of journal rotations, under any fault plan – a power loss
    after the last operation leaves *every* journal file created so far in the folder: each sealed
    one with its whole content, the active one with everything covered by its last sync.  Rests on
    `Writer::rotate` syncing the folder after it created the next file (`dirsync` in the model's
    trace, compared with the real run's trace by the `fault` engine). -/
theorem c09_journal_files_survive_power_loss (db : JDb) (ops : List JOp) (h : db.FilesOk) :
    (jrun db ops).1.powerLossFiles =
      (jrun db ops).1.sealed.map (·.1) ++ [(jrun db ops).1.w.os.take (jrun db ops).1.w.synced] :=
  powerLossFiles_of_filesOk _ (jrun_filesOk db ops h)

/-- the fresh database satisfies the hypothesis -/
theorem c09_fresh_filesOk (manual : Bool) : ({ manual := manual } : JDb).FilesOk :=
  ⟨fun _ _ => rfl, rfl, rfl, (fun _ hp => nomatch hp), rfl⟩

/-- without the folder sync in `rotate` (seeded change C09-7) the file created by a rotation has no
    durable directory entry: a write made durable with `SyncAll` *after* the rotation is in a file
    that a power loss removes as a whole -/
theorem c09_rotate_without_folder_sync_loses_file :
    let db := (jrun ({ rotateSyncsFolder := false } : JDb)
      [.rotate, .batch [[1, 2, 3]] (some .syncAll)]).1
    db.w.synced = 3 ∧ db.sealed.length = 1 ∧ db.powerLossFiles.length = 1 := by
  decide

/-! What is durable is readable: the power-loss image `durable prefix ++ zero padding` of a journal
    made of complete batches `bs` followed by a partially synced batch reads back as `bs` — that is
    `c03_torn_tail`. -/

/-! Non-vacuity (buffer capacity scaled down to 16 bytes): a batch whose pieces overflow the buffer
    is written with two write(2) calls, then SyncData. -/
example :
    let w1 := (({ cap := 16 } : Writer).writePieces [[1, 1], [2, 2, 2, 2, 2, 2], [3, 3, 3, 3, 3, 3], [4, 4, 4, 4, 4, 4], [5, 5]]).1
    (w1.persist .syncData).2 = .ok ∧ (w1.persist .syncData).1.synced = 22 ∧
      (w1.persist .syncData).1.trace = [.write 14 14, .write 8 8, .fdatasync true] := by
  decide

end Fjall.Journal
