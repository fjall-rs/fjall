/-
  C05 — snapshots are frozen in time. `Fjall.Tracker`: the snapshot tracker keeps the GC watermark
  below every live snapshot instant, for every history of open / clone / close / publish / set / gc /
  pullup and every DashMap iteration order. `Fjall.Conc`: the watermark stays below every view of
  every thread in every schedule (`c05_watermark_below_views`).
-/
import FjallModel.Lemmas.Tracker
import FjallModel.Lemmas.Conc
namespace Fjall.Tracker

/-- **Tracker invariant.** In every state reachable by disciplined operations (a nonce is cloned
    and closed only while alive; `gc` may visit the table in *any* order):
    (A) the table counts every live nonce, (B) the watermark is strictly below every live non-zero
    instant (and 0 while an instant-0 view lives), (C) the watermark is below the visible seqno,
    (D) no table entry lies in the future. -/
theorem c05_tracker_inv (g : G) (h : Reach g) : Inv g := by
  induction h with
  | init => exact init_inv
  | step g o _ hd ih => exact step_inv g o hd ih

/-- the same over explicit operation lists -/
theorem c05_tracker_inv_run (ops : List Op) (g : G) (hg : Inv g)
    (hd : ∀ (pre : List Op) (o : Op) (post : List Op), ops = pre ++ o :: post →
      Disciplined (runG g pre) o) : Inv (runG g ops) := by
  induction ops generalizing g with
  | nil => exact hg
  | cons o os ih =>
    exact ih _ (step_inv g o (hd [] o os rfl) hg) fun pre o' post heq =>
      hd (o :: pre) o' post (congrArg (o :: ·) heq)

/-- (E) the watermark never moves backwards — although `pullup` stores instead of taking a max. -/
theorem c05_watermark_monotone (g : G) (o : Op) (h : Reach g) : g.t.wm ≤ (stepG g o).t.wm :=
  wm_mono g o (c05_tracker_inv g h)

/-- What protects a reader: while a nonce at instant `i` is alive, every watermark handed to
    flush / compaction / version-history GC is `≤ i - 1`. -/
theorem c05_live_instant_protected (g : G) (h : Reach g) (i : Nat) (hi : i ∈ g.live) :
    g.t.wm ≤ i - 1 := (c05_tracker_inv g h).safe i hi

/-- Finding F19 (repaired by a `fix:` commit): with `0` as the "nothing retained yet" marker the
    result depended on the DashMap order; visiting `5, 0, 9` with live views at 0, 5 and 9 lifted
    the watermark to 8, past the live view at 5. -/
theorem c05_counterexample_gc_sentinel :
    let t : Tracker := { data := [(5, 1), (0, 1), (9, 1)], seqno := 12, wm := 0 }
    (gcOld t.data t).wm = 8 ∧ (gcWith t.data t).wm = 0 := by
  decide

/-! Non-vacuity: a reachable state with two nonces at one instant, a `gc` between the closes. -/
example : Reach (runG {} [.open, .open, .publish 4, .open, .close 0, .gc [(0, 1), (5, 1)]]) := by
  simp only [runG]
  refine Reach.step _ _ (Reach.step _ _ (Reach.step _ _ (Reach.step _ _ (Reach.step _ _
    (Reach.step _ _ Reach.init ?_) ?_) ?_) ?_) ?_) ?_ <;> simp [Disciplined, stepG, step, bump, decr]

end Fjall.Tracker

namespace Fjall.Conc

/-- **The GC watermark never passes a live view, in every schedule**: with snapshots being opened in
    two steps (counter, then write floor) under the shared GC lock, writers setting and clearing the
    write floor, version registrations advancing the visible seqno, and `gc` runs (explicit, after
    memtable rotations, after ingestions) interleaved in any order, the watermark handed to flushes
    and compactions is at most the instant of every live snapshot, and at most the instant any
    snapshot that is being opened will get.  So no version a live view can read is ever collected. -/
theorem c05_watermark_below_views (progs : List (List Cmd)) (sched : List Tid) (t : Tid) (th : Thread)
    (hth : (run {} (init progs) sched).threads[t]? = some th) :
    (∀ i, th.view = some i → (run {} (init progs) sched).wm ≤ i) ∧
    (∀ v, th.phase = .sLoaded v → (run {} (init progs) sched).wm ≤ instantOf {} (run {} (init progs) sched) v) := by
  have hi := reach_inv progs sched
  have ok := hi.thrOk t th hth
  exact ⟨fun i hv => (ok.view i hv).1, fun v hv => hi.le_instantOf {} (ok.loaded v hv).1⟩

/-- the watermark only ever moves up to "lowest live instant − 1" (it is strictly below a live view
    unless that view's instant is 0) — non-vacuity: a GC with a live snapshot at instant 3 -/
example :
    let s := run {} (init [[.write [⟨1, [1], some [1]⟩], .write [⟨1, [1], some [2]⟩], .write [⟨1, [1], some [3]⟩], .gc],
                           [.snap, .read 1 [1], .close, .gc]])
      [0,0,0,0,0,0, 0,0,0,0,0,0, 0,0,0,0,0,0, 1,1, 0, 1, 1, 1]
    s.wm = 2 ∧ s.obs.map (·.res) = [some [3]] ∧ s.threads.all (fun th => th.prog.isEmpty) := by
  decide

end Fjall.Conc
