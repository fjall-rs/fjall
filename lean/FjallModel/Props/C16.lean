/-
  C16 — keyspace options round-trip through their stored form: the policy codecs one by one, then
  all rows of `encodeKvs` (`c16_options_roundtrip`); a policy of 256 entries does not (finding F17).
  `defaultOpts` are the defaults of the pinned source.
-/
import FjallModel.Lemmas.Config
namespace Fjall.Config
open Fjall Fjall.P
open Fjall.Journal (Comp)

/-- The six policy codecs are left inverses on every vector the constructors accept. -/
theorem c16_policy_roundtrip_compression (xs : List Comp) (hl : xs.length ≤ 255) :
    decPolicy decComp (encPolicy encComp xs) = some xs :=
  policy_roundtrip _ _ xs hl fun x _ r => comp_law x r

theorem c16_policy_roundtrip_pinning (xs : List Bool) (hl : xs.length ≤ 255) :
    decPolicy decBool (encPolicy encBool xs) = some xs :=
  policy_roundtrip _ _ xs hl fun x _ r => bool_law x r

theorem c16_policy_roundtrip_block_size (xs : List Nat) (hl : xs.length ≤ 255)
    (hx : ∀ x ∈ xs, x < 2^32) : decPolicy decU32 (encPolicy encU32 xs) = some xs :=
  policy_roundtrip _ _ xs hl fun x h r => u32_law x (hx x h) r

theorem c16_policy_roundtrip_restart_interval (xs : List Nat) (hl : xs.length ≤ 255)
    (hx : ∀ x ∈ xs, x < 2^8) : decPolicy decU8 (encPolicy encU8 xs) = some xs :=
  policy_roundtrip _ _ xs hl fun x h r => u8_law x (hx x h) r

theorem c16_policy_roundtrip_filter (xs : List FilterEntry) (hl : xs.length ≤ 255)
    (hx : ∀ x ∈ xs, x.WF) : decPolicy decFilter (encPolicy encFilter xs) = some xs :=
  policy_roundtrip _ _ xs hl fun x h r => filter_law x (hx x h) r

/-- **Options round trip.** Every option set within the accepted domain is reconstructed exactly
    from the rows `encode_kvs` stores (hash-ratio policies use the u32 codec on f32 bit patterns). -/
theorem c16_options_roundtrip (o : Opts) (ho : o.WF) :
    fromKvs (lookupRow (encodeKvs o)) = some o := by
  obtain ⟨h1, h2, h3, h3', h4, h4', h5, h5', h6, h6', h7, h8, h9, h10, h11, h11', h12, h13, h14⟩ := ho
  rw [fromKvs, decodeStrategy_encodeKvs o h13, decodeBlob_encodeKvs o h14]
  simp [lookupRow, encodeKvs, lookup_cons_ne, flag_beq, rowNat_leN 8 _ h12,
    c16_policy_roundtrip_compression _ h1, c16_policy_roundtrip_compression _ h2,
    c16_policy_roundtrip_block_size _ h3 h3', c16_policy_roundtrip_restart_interval _ h4 h4',
    c16_policy_roundtrip_restart_interval _ h5 h5', c16_policy_roundtrip_block_size _ h6 h6',
    c16_policy_roundtrip_pinning _ h7, c16_policy_roundtrip_pinning _ h8, c16_policy_roundtrip_pinning _ h9,
    c16_policy_roundtrip_pinning _ h10, c16_policy_roundtrip_filter _ h11 h11']

/-- The guard `≤ 255` is exact: a vector of 256 entries is stored with count byte 0 and comes back
    empty (finding F17: `Leveled::with_level_ratio_policy` accepts such vectors). -/
theorem c16_counterexample_ratio_256 (rs : List Nat) (h : rs.length = 256) :
    decPolicy decU32 (encPolicy encU32 rs) = some [] := by
  simp [decPolicy, encPolicy, h, P.bind, P.byte, decElems, P.pure]

def defaultOpts : Opts :=
  { dataBlockCompression := [.none, .none, .lz4], indexBlockCompression := [.none],
    dataBlockHashRatio := [0], dataBlockRestartInterval := [10, 16], indexBlockRestartInterval := [1],
    dataBlockSize := [4096], expectPointReadHits := false,
    filterBlockPartitioning := [false, false, false, true],
    indexBlockPartitioning := [false, false, false, true], filterBlockPinning := [true, false],
    indexBlockPinning := [true, true, false],
    filterPolicy := [.falsePositiveRate 0x38d1b717, .bitsPerKey 0x41200000],
    manualJournalPersist := false, maxMemtableSize := 67108864,
    strategy := .leveled 4 67108864 [10], blob := some ⟨0x3e800000, .lz4, 67108864, 1024, 0x3e800000⟩ }

example : defaultOpts.WF := by
  simp [Opts.WF, defaultOpts, Strategy.WF, BlobOpts.WF, FilterEntry.WF]

end Fjall.Config
